import Gws.Model.Reader
import Gws.Lemmas.Pool
/-! # The pieces of `Reader.step`, one at a time: the equations through which the other proofs take `dataFrame`,
`afterPayload` and `emitMessage` apart (those of `Frame.parse` and `step` stand with the termination proof, in Model/Reader) -/

namespace Reader

theorem emitMessage_uncompressed (cfg : Cfg) (codec : Codec) (st : State) (opcode : Nat) (data : Bytes) :
    emitMessage cfg codec st opcode data false =
      if Utf8.checkEncoding cfg.checkUtf8 opcode data then .inl (st, some (.msg opcode data))
      else .inr (.err (.coded Facts.closeUnsupportedData)) := by
  unfold emitMessage
  cases Utf8.checkEncoding cfg.checkUtf8 opcode data <;> rfl

theorem emitMessage_inflated (cfg : Cfg) (codec : Codec) (st : State) (opcode : Nat) (data out : Bytes)
    (hd : codec.decompress cfg.readMax st.dps.dict data = .ok out) :
    emitMessage cfg codec st opcode data true =
      if Utf8.checkEncoding cfg.checkUtf8 opcode out then .inl ({ st with dps := st.dps.write out }, some (.msg opcode out))
      else .inr (.err (.coded Facts.closeUnsupportedData)) := by
  unfold emitMessage
  rw [if_pos rfl, hd]
  simp only
  cases Utf8.checkEncoding cfg.checkUtf8 opcode out <;> rfl

theorem emitMessage_data (cfg : Cfg) (codec : Codec) (st : State) (opcode : Nat) (data out : Bytes) (z : Bool)
    (hd : if z then codec.decompress cfg.readMax st.dps.dict data = .ok out else data = out)
    (hv : Utf8.checkEncoding cfg.checkUtf8 opcode out = true) :
    emitMessage cfg codec st opcode data z =
      .inl ({ st with dps := if z then st.dps.write out else st.dps }, some (.msg opcode out)) := by
  cases z
  · cases (hd : data = out)
    rw [emitMessage_uncompressed, if_pos hv]
    rfl
  · rw [emitMessage_inflated cfg codec st opcode data out hd, if_pos hv]
    rfl

/-- what `afterPayload` makes of the result of `emitMessage` -/
def Step.ofEmit (rest : Bytes) : (State × Option Ev) ⊕ End → Step
  | .inl (st', ev) => .ok st' ev.toList rest
  | .inr e => .stop [] e

/-- `afterPayload` as a decision tree without `let`s, the questions in the order `Spec.step` asks them -/
theorem afterPayload_eq (cfg : Cfg) (codec : Codec) (st : State) (h : Frame.Hdr) (p rest : Bytes) :
    afterPayload cfg codec st h p rest =
      if st.cont.initialized then
        if Frame.getOpcode h.b0 ≠ Facts.opContinuation then .stop [] protoErr
        else if ((st.cont.buffer ++ p).length : Int) > cfg.readMax then .stop [] tooLarge
        else if Frame.getFIN h.b0 then
          .ofEmit rest (emitMessage cfg codec { st with cont := {} } st.cont.opcode (st.cont.buffer ++ p) st.cont.compressed)
        else .ok { st with cont := { st.cont with buffer := st.cont.buffer ++ p } } [] rest
      else
        if Frame.getOpcode h.b0 = Facts.opContinuation then .stop [] protoErr
        else if Frame.getFIN h.b0 then
          .ofEmit rest (emitMessage cfg codec st (Frame.getOpcode h.b0) p (cfg.pdEnabled && Frame.getRSV1 h.b0))
        else if (p.length : Int) > cfg.readMax then .stop [] tooLarge
        else .ok { st with cont := { initialized := true, compressed := cfg.pdEnabled && Frame.getRSV1 h.b0,
                                     opcode := Frame.getOpcode h.b0, buffer := p } } [] rest := by
  unfold afterPayload
  by_cases h0 : Frame.getOpcode h.b0 = Facts.opContinuation <;> cases hi : st.cont.initialized <;>
    cases hf : Frame.getFIN h.b0 <;>
    simp only [h0, hi, ne_eq, not_true_eq_false, not_false_eq_true, and_true, and_false,
      Bool.false_eq_true, if_true, if_false] <;>
    rfl

theorem afterPayload_single (cfg : Cfg) (codec : Codec) (st : State) (h : Frame.Hdr) (p rest : Bytes)
    (hfin : Frame.getFIN h.b0 = true) (hop : Frame.getOpcode h.b0 ≠ Facts.opContinuation)
    (hidle : st.cont.initialized = false) (st' : State) (ev : Option Ev)
    (he : emitMessage cfg codec st (Frame.getOpcode h.b0) p (cfg.pdEnabled && Frame.getRSV1 h.b0) = .inl (st', ev)) :
    afterPayload cfg codec st h p rest = .ok st' ev.toList rest := by
  rw [afterPayload_eq, if_neg (ne_true_of_eq_false hidle), if_neg hop, if_pos hfin, he]
  rfl

theorem afterPayload_first (cfg : Cfg) (codec : Codec) (st : State) (h : Frame.Hdr) (p rest : Bytes)
    (hfin : Frame.getFIN h.b0 = false) (hop : Frame.getOpcode h.b0 ≠ Facts.opContinuation)
    (hidle : st.cont.initialized = false) (hfit : (p.length : Int) ≤ cfg.readMax) :
    afterPayload cfg codec st h p rest =
      .ok { st with cont := { initialized := true, compressed := cfg.pdEnabled && Frame.getRSV1 h.b0,
                              opcode := Frame.getOpcode h.b0, buffer := p } } [] rest := by
  rw [afterPayload_eq, if_neg (ne_true_of_eq_false hidle), if_neg hop, if_neg (ne_true_of_eq_false hfin), if_neg (by omega)]

theorem afterPayload_middle (cfg : Cfg) (codec : Codec) (st : State) (h : Frame.Hdr) (p rest : Bytes)
    (hfin : Frame.getFIN h.b0 = false) (hop : Frame.getOpcode h.b0 = Facts.opContinuation)
    (hinit : st.cont.initialized = true) (hfit : ((st.cont.buffer.length + p.length : Nat) : Int) ≤ cfg.readMax) :
    afterPayload cfg codec st h p rest =
      .ok { st with cont := { st.cont with buffer := st.cont.buffer ++ p } } [] rest := by
  rw [afterPayload_eq, if_pos hinit, if_neg (not_not_intro hop), if_neg (by rw [List.length_append]; omega),
    if_neg (ne_true_of_eq_false hfin)]

theorem afterPayload_last (cfg : Cfg) (codec : Codec) (st : State) (h : Frame.Hdr) (p rest : Bytes)
    (hfin : Frame.getFIN h.b0 = true) (hop : Frame.getOpcode h.b0 = Facts.opContinuation)
    (hinit : st.cont.initialized = true) (hfit : ((st.cont.buffer.length + p.length : Nat) : Int) ≤ cfg.readMax)
    (st' : State) (ev : Option Ev)
    (he : emitMessage cfg codec { st with cont := {} } st.cont.opcode (st.cont.buffer ++ p) st.cont.compressed =
      .inl (st', ev)) :
    afterPayload cfg codec st h p rest = .ok st' ev.toList rest := by
  rw [afterPayload_eq, if_pos hinit, if_neg (not_not_intro hop), if_neg (by rw [List.length_append]; omega),
    if_pos hfin, he]
  rfl

theorem headerCheck_none_bound {cfg : Cfg} {h : Frame.Hdr} (hc : headerCheck cfg h = none) :
    0 ≤ h.len ∧ h.len ≤ cfg.readMax := by
  unfold headerCheck at hc
  split at hc
  · simp at hc
  · omega

theorem headerCheck_some_err {cfg : Cfg} {h : Frame.Hdr} {e : End} (hc : headerCheck cfg h = some e) :
    e = tooLarge ∨ e = protoErr := by
  revert hc
  fun_cases headerCheck cfg h <;> intro hc <;> cases hc <;> simp

/-- the `panic` branch of `dataFrame` is dead code (`Pool.cap_ge`) -/
theorem dataFrame_eq (cfg : Cfg) (codec : Codec) (st : State) (h : Frame.Hdr) (rest : Bytes) :
    dataFrame cfg codec st h rest =
      if rest.length < h.len.toNat then .stop [] ioErr
      else afterPayload cfg codec st h
        (if Frame.getMask h.b1 then unmask h.key (rest.take h.len.toNat) else rest.take h.len.toNat)
        (rest.drop h.len.toNat) := by
  unfold dataFrame
  have := Pool.cap_ge (h.len.toNat + Facts.flateTail.length)
  rw [if_neg (by omega)]

end Reader
