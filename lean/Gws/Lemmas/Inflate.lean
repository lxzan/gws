import Gws.Spec.Inflate
/-!
# The RFC 1951 inflater only looks `maxDist` bytes back into the preset history

Decoding never looks at the output (`Out`); a run touches it in three ways only: it pushes a literal, appends a stored
block, or copies a back-reference.  So a relation between two outputs that these three respect (`Respects`) is respected
by `codes`, `blockBody` and `blocks`.  Independent of that, at the end: `mkHuff` in list terms and the fixed
literal/length code as a table, for the fixed-Huffman test vectors of `Gws/Props/C02Inflate.lean`.
-/
namespace Spec.Inflate

theorem copy_go_size (dist n : Nat) (h : Array UInt8) : (Out.copy.go dist n h).size = h.size + n := by
  induction n generalizing h with
  | zero => rfl
  | succ n ih =>
    show (Out.copy.go dist n (h.push h[h.size - dist]!)).size = _
    rw [ih]; simp; omega

theorem copy_go_append (pre : Array UInt8) (dist n : Nat) (h : Array UInt8) (hd : dist ≤ h.size) :
    Out.copy.go dist n (pre ++ h) = pre ++ Out.copy.go dist n h := by
  induction n generalizing h with
  | zero => rfl
  | succ n ih =>
    show Out.copy.go dist n ((pre ++ h).push (pre ++ h)[(pre ++ h).size - dist]!) =
      pre ++ Out.copy.go dist n (h.push h[h.size - dist]!)
    have e : (pre ++ h)[(pre ++ h).size - dist]! = h[h.size - dist]! := by
      have h1 : (pre ++ h).size - dist = pre.size + (h.size - dist) := by simp; omega
      rw [h1, getElem!_def, getElem!_def, Array.getElem?_append_right (by omega)]
      simp
    rw [e, ← Array.append_push]
    exact ih _ (by simp; omega)

theorem copy_eq_some {o o' : Out} {len dist : Nat} :
    o.copy len dist = some o' ↔ (dist ≠ 0 ∧ dist ≤ o.hist.size) ∧
      o' = { o with hist := Out.copy.go dist len o.hist, maxDist := max o.maxDist dist } := by
  unfold Out.copy
  split
  · simp; omega
  · simp only [Option.some.injEq, eq_comm (a := o')]
    exact ⟨fun h => ⟨by omega, h⟩, fun h => h.2⟩

inductive Item where
  | lit (b : UInt8)
  | eob
  | copy (len d : Nat)

/-- the text of `codes` (Spec/Inflate) up to the point where the output comes in, copied; `codes_succ` holds the two in
step -/
def nextItem (lit dist : Huff) (r : BitReader) : Option (Item × BitReader) := do
  let (sym, r) ← lit.decode r
  if sym < 256 then pure (.lit sym.toUInt8, r)
  else if sym == 256 then pure (.eob, r)
  else
    let i := sym - 257
    if i ≥ 29 then none else
    let (e, r) ← r.readBits lenExtra[i]!
    let len := lenBase[i]! + e
    let (ds, r) ← dist.decode r
    if ds ≥ 30 then none else
    let (e, r) ← r.readBits distExtra[ds]!
    pure (.copy len (distBase[ds]! + e), r)

theorem codes_succ (lit dist : Huff) (r : BitReader) (o : Out) (fuel : Nat) :
    codes lit dist r o (fuel + 1) =
      (nextItem lit dist r).bind fun
        | (.lit b, r1) => codes lit dist r1 { o with hist := o.hist.push b } fuel
        | (.eob, r1) => some (r1, o)
        | (.copy len d, r1) => (o.copy len d).bind fun o => codes lit dist r1 o fuel := by
  have ite_bind : ∀ {α β : Type} (c : Prop) [Decidable c] (x y : Option α) (f : α → Option β),
      (if c then x else y).bind f = if c then x.bind f else y.bind f := by
    intros; split <;> rfl
  -- both sides are the same cascade once the continuation is pushed to its leaves
  rw [codes]; unfold nextItem
  simp only [Option.bind_eq_bind, Option.pure_def, Option.bind_assoc, ite_bind, Option.bind_some, Option.bind_none]

/-- the `match` inside `blocks` (Spec/Inflate), copied; `blocks_succ` (`rfl`) holds the two in step -/
def blockBody (typ : Nat) (r : BitReader) (o : Out) : Option (BitReader × Out) :=
  match typ with
  | 0 => do
    let r := r.align
    let (len, r) ← r.readBits 16
    let (nlen, r) ← r.readBits 16
    if len + nlen != 0xffff then none else
    if r.bitsLeft < len * 8 then none else
    let bytes := r.data.extract (r.pos / 8) (r.pos / 8 + len)
    pure ({ r with pos := r.pos + 8 * len }, { o with hist := o.hist ++ bytes })
  | 1 => codes fixedLit fixedDist r o (r.bitsLeft + 1)
  | 2 => do
    let (l, d, r) ← dynamic r
    codes l d r o (r.bitsLeft + 1)
  | _ => none

theorem blocks_succ (r : BitReader) (o : Out) (fuel : Nat) :
    blocks r o (fuel + 1) =
      if r.bitsLeft < 3 then some o else
        (r.readBits 1).bind fun x => (x.2.readBits 2).bind fun y =>
          (blockBody y.1 y.2 o).bind fun z => if x.1 == 1 then some z.2 else blocks z.1 z.2 fuel := by
  rw [blocks]; rfl

/-- `R` survives the three things a run does to its output.  `G` is a condition on the first output that a run can only
lose, so that it holds at every copy if it holds at the end (`maxDist ≤ B`: `maxDist` only grows); a copy has to be
matched only if `G` still holds after it. -/
structure Respects (R : Out → Out → Prop) (G : Out → Prop) : Prop where
  push : ∀ o₁ o₂ (b : UInt8), R o₁ o₂ → R { o₁ with hist := o₁.hist.push b } { o₂ with hist := o₂.hist.push b }
  append : ∀ o₁ o₂ (bs : Array UInt8), R o₁ o₂ → R { o₁ with hist := o₁.hist ++ bs } { o₂ with hist := o₂.hist ++ bs }
  copy : ∀ o₁ o₂ o₁' (len d : Nat), R o₁ o₂ → o₁.copy len d = some o₁' → G o₁' →
    ∃ o₂', o₂.copy len d = some o₂' ∧ R o₁' o₂'

section
variable {R : Out → Out → Prop} {G : Out → Prop} (hR : Respects R G)
include hR

theorem codes_rel {lit dist : Huff}
    (hG : ∀ {fuel r o r' o'}, codes lit dist r o fuel = some (r', o') → G o' → G o) {fuel : Nat} :
    ∀ {r : BitReader} {o₁ o₂ : Out} {r' : BitReader} {o₁' : Out}, R o₁ o₂ →
      codes lit dist r o₁ fuel = some (r', o₁') → G o₁' →
      ∃ o₂', codes lit dist r o₂ fuel = some (r', o₂') ∧ R o₁' o₂' := by
  induction fuel with
  | zero => intro r o₁ o₂ r' o₁' _ h; simp [codes] at h
  | succ fuel ih =>
    intro r o₁ o₂ r' o₁' s h g
    rw [codes_succ] at h ⊢
    obtain ⟨⟨it, r1⟩, hn, h⟩ := Option.bind_eq_some_iff.mp h
    rw [hn, Option.bind_some]
    cases it with
    | lit b => exact ih (hR.push _ _ b s) h g
    | eob =>
      simp only [Option.some.injEq, Prod.mk.injEq] at h
      obtain ⟨rfl, rfl⟩ := h
      exact ⟨o₂, rfl, s⟩
    | copy len d =>
      obtain ⟨oc, hc, h⟩ := Option.bind_eq_some_iff.mp h
      obtain ⟨oc₂, hc₂, s'⟩ := hR.copy _ _ _ _ _ s hc (hG h g)
      obtain ⟨o₂', h1, h2⟩ := ih s' h g
      exact ⟨o₂', by simp only [hc₂, Option.bind_some]; exact h1, h2⟩

theorem blockBody_rel (hG : ∀ {lit dist fuel r o r' o'}, codes lit dist r o fuel = some (r', o') → G o' → G o)
    {typ : Nat} {r : BitReader} {o₁ o₂ : Out} {r' : BitReader} {o₁' : Out} (s : R o₁ o₂)
    (h : blockBody typ r o₁ = some (r', o₁')) (g : G o₁') :
    ∃ o₂', blockBody typ r o₂ = some (r', o₂') ∧ R o₁' o₂' := by
  unfold blockBody at h ⊢
  split at h
  · simp only [Option.bind_eq_bind] at h ⊢
    obtain ⟨p1, h1, h⟩ := Option.bind_eq_some_iff.mp h
    obtain ⟨p2, h2, h⟩ := Option.bind_eq_some_iff.mp h
    simp only [h1, h2, Option.bind_some]
    split at h
    · cases h
    · rename_i hc1
      rw [if_neg hc1]
      split at h
      · cases h
      · rename_i hc2
        rw [if_neg hc2]
        simp only [pure, Option.some.injEq, Prod.mk.injEq] at h
        obtain ⟨rfl, rfl⟩ := h
        exact ⟨_, rfl, hR.append _ _ _ s⟩
  · exact codes_rel hR hG s h g
  · simp only [Option.bind_eq_bind] at h ⊢
    obtain ⟨p1, h1, h⟩ := Option.bind_eq_some_iff.mp h
    simp only [h1, Option.bind_some]
    exact codes_rel hR hG s h g
  · simp at h

theorem blocks_rel (hGc : ∀ {lit dist fuel r o r' o'}, codes lit dist r o fuel = some (r', o') → G o' → G o)
    (hGb : ∀ {fuel r o o'}, blocks r o fuel = some o' → G o' → G o) {fuel : Nat} :
    ∀ {r : BitReader} {o₁ o₂ o₁' : Out}, R o₁ o₂ → blocks r o₁ fuel = some o₁' → G o₁' →
      ∃ o₂', blocks r o₂ fuel = some o₂' ∧ R o₁' o₂' := by
  induction fuel with
  | zero => intro r o₁ o₂ o₁' _ h; simp [blocks] at h
  | succ fuel ih =>
    intro r o₁ o₂ o₁' s h g
    rw [blocks_succ] at h ⊢
    split at h
    · rename_i hc
      rw [if_pos hc]
      simp only [Option.some.injEq] at h; subst h
      exact ⟨o₂, rfl, s⟩
    · rename_i hc
      rw [if_neg hc]
      obtain ⟨x, h1, h⟩ := Option.bind_eq_some_iff.mp h
      obtain ⟨y, h2, h⟩ := Option.bind_eq_some_iff.mp h
      obtain ⟨⟨rz, oz⟩, h3, h⟩ := Option.bind_eq_some_iff.mp h
      simp only [h1, h2, Option.bind_some]
      split at h
      · rename_i hf
        simp only [Option.some.injEq] at h; subst h
        obtain ⟨oz₂, hb, s'⟩ := blockBody_rel hR hGc s h3 g
        exact ⟨oz₂, by simp only [hb, Option.bind_some, hf, if_true], s'⟩
      · rename_i hf
        obtain ⟨oz₂, hb, s'⟩ := blockBody_rel hR hGc s h3 (hGb h g)
        obtain ⟨o₂', hr, s''⟩ := ih s' h g
        exact ⟨o₂', by simp only [hb, Option.bind_some, if_neg hf]; exact hr, s''⟩

end

theorem respects_ge (m : Nat) : Respects (fun o₁ o₂ => o₂ = o₁ ∧ m ≤ o₁.maxDist) fun _ => True where
  push := by rintro o₁ _ b ⟨rfl, h⟩; exact ⟨rfl, h⟩
  append := by rintro o₁ _ bs ⟨rfl, h⟩; exact ⟨rfl, h⟩
  copy := by
    rintro o₁ _ o' len d ⟨rfl, h⟩ hc _
    obtain ⟨_, rfl⟩ := copy_eq_some.mp hc
    exact ⟨_, hc, rfl, Nat.le_trans h (Nat.le_max_left _ _)⟩

theorem codes_mono {lit dist : Huff} {fuel : Nat} {r : BitReader} {o : Out} {r' : BitReader} {o' : Out}
    (h : codes lit dist r o fuel = some (r', o')) : o.maxDist ≤ o'.maxDist := by
  obtain ⟨_, _, rfl, h⟩ := codes_rel (respects_ge o.maxDist) (fun _ _ => trivial) ⟨rfl, Nat.le_refl _⟩ h trivial
  exact h

theorem blocks_mono {fuel : Nat} {r : BitReader} {o o' : Out} (h : blocks r o fuel = some o') :
    o.maxDist ≤ o'.maxDist := by
  obtain ⟨_, _, rfl, h⟩ := blocks_rel (respects_ge o.maxDist) (fun _ _ => trivial) (fun _ _ => trivial)
    ⟨rfl, Nat.le_refl _⟩ h trivial
  exact h

structure Sim (pre : Array UInt8) (o₁ o₂ : Out) : Prop where
  hist : o₁.hist = pre ++ o₂.hist
  start : o₁.start = pre.size + o₂.start
  maxDist : o₁.maxDist = o₂.maxDist

theorem Sim.push {pre : Array UInt8} {o₁ o₂ : Out} (s : Sim pre o₁ o₂) (b : UInt8) :
    Sim pre { o₁ with hist := o₁.hist.push b } { o₂ with hist := o₂.hist.push b } :=
  ⟨by simp only [s.hist, Array.append_push], s.start, s.maxDist⟩

theorem Sim.append {pre : Array UInt8} {o₁ o₂ : Out} (s : Sim pre o₁ o₂) (bs : Array UInt8) :
    Sim pre { o₁ with hist := o₁.hist ++ bs } { o₂ with hist := o₂.hist ++ bs } :=
  ⟨by simp only [s.hist, Array.append_assoc], s.start, s.maxDist⟩

theorem Sim.copy_go {pre : Array UInt8} {o₁ o₂ : Out} (s : Sim pre o₁ o₂) (len : Nat) {dist : Nat}
    (hd : dist ≤ o₂.hist.size) :
    Sim pre { o₁ with hist := Out.copy.go dist len o₁.hist, maxDist := max o₁.maxDist dist }
      { o₂ with hist := Out.copy.go dist len o₂.hist, maxDist := max o₂.maxDist dist } :=
  ⟨by simp only [s.hist]; exact copy_go_append pre dist len o₂.hist hd, s.start, by simp only [s.maxDist]⟩

theorem respects_drop (pre : Array UInt8) (B : Nat) :
    Respects (fun o₁ o₂ => Sim pre o₁ o₂ ∧ B ≤ o₂.hist.size) (·.maxDist ≤ B) where
  push := by
    rintro o₁ o₂ b ⟨s, h⟩
    exact ⟨s.push b, by simp only [Array.size_push]; omega⟩
  append := by
    rintro o₁ o₂ bs ⟨s, h⟩
    exact ⟨s.append bs, by simp only [Array.size_append]; omega⟩
  copy := by
    rintro o₁ o₂ o₁' len d ⟨s, h⟩ hc g
    obtain ⟨⟨h0, _⟩, rfl⟩ := copy_eq_some.mp hc
    -- the guard bounds this distance, so the copy can be made in the shorter history too
    have hd : d ≤ o₂.hist.size := Nat.le_trans (Nat.le_trans (Nat.le_max_right _ _) g) h
    exact ⟨_, copy_eq_some.mpr ⟨⟨h0, hd⟩, rfl⟩, s.copy_go len hd, by simp only [copy_go_size]; omega⟩

theorem respects_add (pre : Array UInt8) : Respects (fun o₂ o₁ => Sim pre o₁ o₂) fun _ => True where
  push _ _ b := fun s => s.push b
  append _ _ bs := fun s => s.append bs
  copy := by
    rintro o₂ o₁ o₂' len d s hc _
    obtain ⟨⟨h0, hd⟩, rfl⟩ := copy_eq_some.mp hc
    exact ⟨_, copy_eq_some.mpr ⟨⟨h0, by rw [s.hist, Array.size_append]; omega⟩, rfl⟩, s.copy_go len hd⟩

theorem run_eq_some {h data out : Array UInt8} {d : Nat} :
    run h data = some (out, d) ↔
      ∃ o, blocks { data := data, pos := 0 } { hist := h, start := h.size, maxDist := 0 } (data.size + 2) = some o ∧
        o.hist.extract o.start o.hist.size = out ∧ o.maxDist = d := by
  unfold run
  cases blocks { data := data, pos := 0 } { hist := h, start := h.size, maxDist := 0 } (data.size + 2) <;>
    simp

theorem Sim.init (pre h : Array UInt8) :
    Sim pre { hist := pre ++ h, start := (pre ++ h).size, maxDist := 0 } { hist := h, start := h.size, maxDist := 0 } :=
  ⟨rfl, by simp, rfl⟩

theorem Sim.result {pre : Array UInt8} {o₁ o₂ : Out} (s : Sim pre o₁ o₂) :
    o₁.hist.extract o₁.start o₁.hist.size = o₂.hist.extract o₂.start o₂.hist.size := by
  rw [s.hist, s.start, Array.extract_append]
  simp

theorem run_drop_prefix {pre h data out : Array UInt8} {d : Nat}
    (hr : run (pre ++ h) data = some (out, d)) (hd : d ≤ h.size) : run h data = some (out, d) := by
  obtain ⟨o₁, hb, rfl, rfl⟩ := run_eq_some.mp hr
  obtain ⟨o₂, hb₂, s, _⟩ := blocks_rel (respects_drop pre h.size)
    (fun hc g => Nat.le_trans (codes_mono hc) g) (fun hc g => Nat.le_trans (blocks_mono hc) g)
    ⟨Sim.init pre h, Nat.le_refl _⟩ hb hd
  exact run_eq_some.mpr ⟨o₂, hb₂, s.result.symm, s.maxDist.symm⟩

theorem run_add_prefix (pre : Array UInt8) {h data out : Array UInt8} {d : Nat}
    (hr : run h data = some (out, d)) : run (pre ++ h) data = some (out, d) := by
  obtain ⟨o₂, hb, rfl, rfl⟩ := run_eq_some.mp hr
  obtain ⟨o₁, hb₁, s⟩ := blocks_rel (respects_add pre) (fun _ _ => trivial) (fun _ _ => trivial)
    (Sim.init pre h) hb trivial
  exact run_eq_some.mpr ⟨o₁, hb₁, s.result, s.maxDist⟩

theorem foldl_append_flatMap (F : Nat → List Nat) (l : List Nat) (s : Array Nat) :
    l.foldl (fun s a => s ++ (F a).toArray) s = s ++ (l.flatMap F).toArray := by
  induction l generalizing s with
  | nil => simp
  | cons a l ih => rw [List.foldl_cons, ih]; simp

theorem mkHuff_symbols (lengths : Array Nat) :
    (mkHuff lengths).symbols =
      ((List.range' 1 15).flatMap fun len => (List.range' 0 lengths.size).filter fun i => lengths[i]! == len).toArray := by
  have ite_yield : ∀ (c : Prop) [Decidable c] (a b : Array Nat),
      (if c then (pure (ForInStep.yield a) : Id _) else pure (ForInStep.yield b)) = pure (ForInStep.yield (if c then a else b)) := by
    intros; split <;> rfl
  simp only [mkHuff, Std.Legacy.Range.forIn_eq_forIn_range', Std.Legacy.Range.size, ite_yield,
    List.forIn_pure_yield_eq_foldl, pure_bind, Id.run_pure, Nat.sub_zero, Nat.add_sub_cancel, Nat.div_one]
  -- the inner loop pushes the `i` that pass the test: a filter; the outer loop appends these lists: a flatMap
  simp only [← List.foldl_filter, List.foldl_push_eq_append', foldl_append_flatMap]
  simp

theorem foldl_modify_count (ls : List Nat) (c : Array Nat) :
    ls.foldl (fun c l => c.modify l (· + 1)) c = c.mapIdx fun j x => x + ls.count j := by
  induction ls generalizing c with
  | nil => exact Array.ext (by simp) (fun i _ _ => by simp)
  | cons l ls ih =>
    rw [List.foldl_cons, ih]
    apply Array.ext
    · simp
    · intro j h1 h2
      simp only [Array.getElem_mapIdx, Array.getElem_modify, List.count_cons]
      split <;> simp_all <;> omega

theorem mkHuff_counts (lengths : Array Nat) :
    (mkHuff lengths).counts =
      ((Array.replicate 16 0).mapIdx fun j x => x + lengths.toList.count j).set! 0 0 := by
  simp only [mkHuff, ← Array.forIn_toList, List.forIn_pure_yield_eq_foldl, pure_bind, Id.run_pure]
  rw [foldl_modify_count]

/-- RFC 1951 3.2.6, as `fixedLit` (Spec/Inflate) has it inline; the `rfl` in `fixedLit_eq` compares the two -/
def fixedLen (i : Nat) : Nat := if i < 144 then 8 else if i < 256 then 9 else if i < 280 then 7 else 8

theorem toList_ofFn_val {α : Type} (g : Nat → α) (n : Nat) :
    (Array.ofFn (n := n) fun i => g i.val).toList = (List.range' 0 n).map g := by
  apply List.ext_getElem
  · simp
  · intro i h1 h2; simp

theorem mkHuff_ofFn (f : Nat → Nat) (n : Nat) :
    mkHuff (Array.ofFn (n := n) fun i => f i.val) =
      { counts := ((Array.replicate 16 0).mapIdx fun j x => x + ((List.range' 0 n).map f).count j).set! 0 0,
        symbols := ((List.range' 1 15).flatMap fun len => (List.range' 0 n).filter fun i => f i == len).toArray } := by
  have hget : ∀ len, ((List.range' 0 n).filter fun i => (Array.ofFn (n := n) fun i => f i.val)[i]! == len) =
      (List.range' 0 n).filter fun i => f i == len := by
    intro len
    apply List.filter_congr
    intro i hi
    have hi : i < n := by simpa using hi
    simp [getElem!_pos, hi]
  show (⟨(mkHuff _).counts, (mkHuff _).symbols⟩ : Huff) = _
  simp only [mkHuff_counts, mkHuff_symbols, toList_ofFn_val, Array.size_ofFn, hget]

/-- `mkHuff` is slow to evaluate on 288 lengths (indexing inside two nested loops), its list form above is not: a proof
about a fixed-Huffman stream rewrites `fixedLit` with this equation before it evaluates. -/
theorem fixedLit_eq : fixedLit =
    { counts := #[0, 0, 0, 0, 0, 0, 0, 24, 152, 112, 0, 0, 0, 0, 0, 0],
      symbols := (List.range' 256 24 ++ List.range' 0 144 ++ List.range' 280 8 ++ List.range' 144 112).toArray } := by
  rw [show fixedLit = mkHuff (Array.ofFn (n := 288) fun i => fixedLen i.val) from rfl, mkHuff_ofFn, Huff.mk.injEq]
  -- the symbols are compared as lists: deciding equality of arrays indexes into them
  exact ⟨by decide +kernel, congrArg List.toArray (by decide +kernel)⟩

end Spec.Inflate
