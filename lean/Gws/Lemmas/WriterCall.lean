import Gws.Lemmas.WriterAggregate
/-!
# Whole calls as equations

`writeFile_plain_eq` / `writeFile_compressed_eq`: the call's result written out with `framesOf`; and the toy configuration
of the examples.
-/

namespace Writer

theorem fileCb_ok (cfg : Cfg) (codec : Codec) (opcode : Nat) (keys : Nat → Bytes) (hop : opcode < 16)
    (hkeys : ∀ i, (keys i).length = 4) :
    ∀ i e p, p.length ≤ cfg.writeMax →
      (fun index eof p => fileFrame cfg codec false opcode index eof p (keys index)) i e p =
        .ok ((fun i e p => fileWire cfg opcode i e p (keys i)) i e p) :=
  fun i e p hp => fileFrame_ok cfg codec opcode i e p (keys i) hop (hkeys i) hp

theorem writeFile_plain_eq (cfg : Cfg) (codec : Codec) (st : Conn) (opcode : Nat) (reads : ReaderScript)
    (outs : List Bytes) (keys : Nat → Bytes)
    (hop : opcode < 16) (hkeys : ∀ i, (keys i).length = 4) (hopen : st.closed = false)
    (hpd : cfg.pdEnabled = false) (heof : (readChunks reads).2 = true)
    (hfit : ∀ c ∈ (readChunks reads).1, c.length ≤ cfg.writeMax) :
    writeFile cfg codec st opcode reads outs keys =
      { wire := (framesOf (fun i e p => fileWire cfg opcode i e p (keys i)) 0 reads).flatten, err := none, st := st } := by
  obtain ⟨cps0, closed0⟩ := st
  simp only at hopen
  subst hopen
  have hsplit := splitReader_eq _ _ cfg.writeMax (fileCb_ok cfg codec opcode keys hop hkeys) reads 0 hfit heof
  simp only [writeFile, writeFileFrames, hpd, Bool.false_eq_true, ↓reduceIte, hsplit, emitError]

theorem writeFile_compressed_eq (cfg : Cfg) (codec : Codec) (st : Conn) (opcode : Nat) (reads : ReaderScript)
    (outs : List Bytes) (keys : Nat → Bytes)
    (hop : opcode < 16) (hkeys : ∀ i, (keys i).length = 4) (hopen : st.closed = false)
    (hpd : cfg.pdEnabled = true) (heof : (readChunks reads).2 = true)
    (hne : outs ≠ []) (hfit : outs.flatten.length ≤ cfg.writeMax) :
    writeFile cfg codec st opcode reads outs keys =
      { wire := (framesOf (fun i e p => fileWire cfg opcode i e p (keys i)) 0 (planScript outs)).flatten,
        err := none, st := { st with cps := (readChunks reads).1.foldl Win.write st.cps } } := by
  obtain ⟨cps0, closed0⟩ := st
  simp only at hopen
  subst hopen
  have hc1 := compressFile_eq _ _ cfg.writeMax (fileCb_ok cfg codec opcode keys hop hkeys) outs hne hfit
  simp only [writeFile, writeFileFrames, hpd, ↓reduceIte, heof, hc1, emitError]

/-- the DEFLATE library of the examples: whatever the input, eight bytes that end in the sync-flush trailer `00 00 ff ff`,
and no inflater — the examples that use it show framing (RSV1, the trailer strip, the aggregator), not compression -/
def demoCodec : Codec where
  inflate _ _ := none
  compress _ _ _ := [0x4a, 0xcc, 0x04, 0x00, 0x00, 0x00, 0xff, 0xff]

def demoCfg (isServer pd : Bool) : Cfg :=
  { isServer := isServer, pdEnabled := pd, threshold := 0, bits := 12, writeMax := 1000, checkUtf8 := true }

end Writer
