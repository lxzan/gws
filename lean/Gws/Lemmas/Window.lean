import Gws.Model.Window
/-! `Win.write` below the C17 theorems: its two overflow branches on a full window, and what no write changes. -/

theorem Win.full_case (d p : Bytes) (S : Nat) (hd : d.length = S) :
    (if p.length ≥ S then goCopy d 0 (p.drop (p.length - S))
     else goCopy (goCopy d 0 (d.drop p.length)) (S - p.length) p) = lastN S (d ++ p) := by
  split
  · rename_i h
    have hl : (p.drop (p.length - S)).length = d.length := by rw [List.length_drop]; omega
    rw [goCopy_full _ _ hl, lastN_append_of_le S d p h]
    rfl
  · rename_i h
    have hl : (d.drop p.length).length + p.length = S := by rw [List.length_drop]; omega
    rw [goCopy_zero_of_le _ _ (by rw [List.length_drop]; omega),
      goCopy_tail _ _ _ (by simp; omega)]
    unfold lastN
    rw [List.take_append_of_le_length (by omega), List.take_of_length_le (by omega),
      List.length_append, List.drop_append_of_le_length (by omega)]
    congr 2
    omega

theorem Win.write_off (w : Win) (p : Bytes) (he : w.enabled = false) : w.write p = w := by
  simp [Win.write, he]

theorem Win.write_frame (w : Win) (p : Bytes) : (w.write p).enabled = w.enabled ∧ (w.write p).size = w.size := by
  unfold Win.write
  constructor
  · simp only [apply_ite Win.enabled, ite_self]
  · simp only [apply_ite Win.size, ite_self]
