import Gws.Spec.Utf8
/-! # `Spec.Utf8.valid`, one step

Evaluation on concrete bytes rewrites with these two: the equations Lean derives for a definition by well-founded
recursion are derived again in every declaration that asks for them. -/

namespace Spec.Utf8

theorem valid_nil : valid [] = true := by
  rw [valid.eq_def]

theorem valid_cons (a : UInt8) (r : Bytes) :
    valid (a :: r) =
      if a ≤ 0x7F then valid r
      else if 0xC2 ≤ a && a ≤ 0xDF then
        match r with
        | b :: r' => isCont b && valid r'
        | _ => false
      else if 0xE0 ≤ a && a ≤ 0xEF then
        match r with
        | b :: c :: r' =>
          (if a == 0xE0 then 0xA0 ≤ b && b ≤ 0xBF else if a == 0xED then 0x80 ≤ b && b ≤ 0x9F else isCont b)
            && isCont c && valid r'
        | _ => false
      else if 0xF0 ≤ a && a ≤ 0xF4 then
        match r with
        | b :: c :: d :: r' =>
          (if a == 0xF0 then 0x90 ≤ b && b ≤ 0xBF else if a == 0xF4 then 0x80 ≤ b && b ≤ 0x8F else isCont b)
            && isCont c && isCont d && valid r'
        | _ => false
      else false := by
  rw [valid.eq_def]
  rfl

end Spec.Utf8
