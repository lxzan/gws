import Gws.Model.Handshake
/-!
# Lemmas about the handshake model: string functions, header maps, the two decision procedures in closed form
(`serverDecide_of_pass`, `isAccept_iff`, `clientHandshake_ok_iff`), and the RFC 6455 sample request and response that
the examples of C10 / C11 evaluate
-/

namespace Hs

open Sha1 (asc)

theorem trimAux_suffix (tbl : List Str) (n : Nat) (s : Str) : trimAux tbl n s <:+ s := by
  induction n generalizing s with
  | zero => exact List.suffix_refl s
  | succ n ih =>
    unfold trimAux
    split
    · exact List.suffix_refl s
    · exact (ih _).trans (List.drop_suffix _ _)

theorem trimLeft_suffix (s : Str) : trimLeft s <:+ s := trimAux_suffix _ _ _

theorem trimRight_prefix (s : Str) : trimRight s <+: s := by
  unfold trimRight
  have := trimAux_suffix (spaceRunes.map List.reverse) s.length s.reverse
  rw [← List.reverse_suffix, List.reverse_reverse]
  exact this

theorem trimSpace_infix (s : Str) : trimSpace s <:+: s :=
  (trimRight_prefix _).isInfix.trans (trimLeft_suffix s).isInfix

theorem consHead_eq_modifyHead (c : UInt8) {l : List Str} (h : l ≠ []) : consHead c l = l.modifyHead (c :: ·) := by
  cases l with
  | nil => exact absurd rfl h
  | cons p ps => rfl

theorem splitOn_eq (sep : UInt8) (s : Str) : splitOn sep s = s.splitOn sep := by
  induction s with
  | nil => rfl
  | cons c r ih =>
    rw [splitOn, List.splitOn_cons_eq_if_modifyHead, ← ih, consHead_eq_modifyHead c (ih ▸ List.splitOn_ne_nil sep r)]
    simp only [beq_iff_eq]

theorem infix_intercalate_of_mem {α : Type} {sep p : List α} {ls : List (List α)} (h : p ∈ ls) :
    p <:+: sep.intercalate ls := by
  induction ls with
  | nil => cases h
  | cons a r ih =>
    cases r with
    | nil => rw [List.mem_singleton.1 h, List.intercalate_singleton]; exact List.infix_refl _
    | cons b r' =>
      rw [List.intercalate_cons_cons]
      rcases List.mem_cons.1 h with rfl | h
      · exact ((List.prefix_append p sep).trans (List.prefix_append _ _)).isInfix
      · exact (ih h).trans (List.suffix_append _ _).isInfix

theorem mem_splitOn_infix {sep : UInt8} {s p : Str} (h : p ∈ splitOn sep s) : p <:+: s := by
  have := infix_intercalate_of_mem (sep := [sep]) (splitOn_eq sep s ▸ h)
  rwa [List.intercalate_splitOn] at this

theorem mem_split_infix {v e : Str} (h : e ∈ split v) : e <:+: v := by
  unfold split at h
  obtain ⟨h1, -⟩ := List.mem_filter.1 h
  obtain ⟨p, hp, rfl⟩ := List.mem_map.1 h1
  exact (trimSpace_infix p).trans (mem_splitOn_infix hp)

theorem mem_split_ne_nil {v e : Str} (h : e ∈ split v) : e ≠ [] := by
  unfold split at h
  simpa using (List.mem_filter.1 h).2

theorem splitOn_append_sep (sep : UInt8) (a b : Str) :
    splitOn sep (a ++ sep :: b) = splitOn sep a ++ splitOn sep b := by
  rw [splitOn_eq, splitOn_eq, splitOn_eq, List.splitOn_append_cons_self]

theorem split_nil : split [] = [] := by decide

theorem split_append_comma (a b : Str) : split (a ++ 44 :: b) = split a ++ split b := by
  unfold split
  rw [splitOn_append_sep, List.map_append, List.filter_append]

/-- `Split(Join(lines, ","), ",")` yields the elements of the lines, line after line -/
theorem split_joinComma (lines : List Str) : split (joinComma lines) = offered lines := by
  unfold offered
  induction lines with
  | nil => simp [joinComma, split_nil]
  | cons l ls ih =>
    cases ls with
    | nil => simp [joinComma]
    | cons l' ls' =>
      rw [joinComma, split_append_comma, ih]
      simp

theorem mem_offered {lines : List Str} {e : Str} : e ∈ offered lines ↔ ∃ line, line ∈ lines ∧ e ∈ split line := by
  simp [offered, List.mem_flatMap]

theorem mem_offered_ne_nil {lines : List Str} {e : Str} (h : e ∈ offered lines) : e ≠ [] := by
  obtain ⟨line, -, he⟩ := mem_offered.1 h
  exact mem_split_ne_nil he

/-- `k` (107) and `s` (115) are the two ASCII letters a non-ASCII character folds to (U+212A KELVIN SIGN, U+017F LONG S):
against an ASCII target without them, `EqualFold` implies equality up to ASCII case -/
theorem foldEq_lower {t : Str} (ht : ∀ x ∈ t, lowerB x ≠ 107 ∧ lowerB x ≠ 115) {s : Str}
    (h : foldEq s t = true) : lower s = lower t := by
  fun_induction foldEq s t with
  | case1 => rfl
  | case2 => cases h
  | case3 => cases h
  | case4 c s x t hc ih =>
    simp only [Bool.and_eq_true, beq_iff_eq] at h
    simp only [lower, List.map_cons, h.1, List.cons.injEq, true_and]
    exact ih (fun y hy => ht y (List.mem_cons_of_mem _ hy)) h.2
  | case5 => simp [(ht _ List.mem_cons_self).1] at h
  | case6 => simp [(ht _ List.mem_cons_self).2] at h
  | case7 => cases h

theorem lowerB_toNat (b : UInt8) :
    (lowerB b).toNat = if 65 ≤ b.toNat ∧ b.toNat ≤ 90 then b.toNat + 32 else b.toNat := by
  have hc : (65 ≤ b ∧ b ≤ 90) ↔ (65 ≤ b.toNat ∧ b.toNat ≤ 90) := by simp [UInt8.le_iff_toNat_le]
  unfold lowerB
  simp only [hc]
  split
  · rw [UInt8.toNat_add]; simp; omega
  · rfl

theorem lowerB_eq_of_lt {a d : UInt8} (hd : d < 65) (h : lowerB a = d) : a = d := by
  have hd := UInt8.lt_iff_toNat_lt.1 hd
  have h := congrArg UInt8.toNat h
  rw [lowerB_toNat] at h
  apply UInt8.toNat_inj.1
  simp at hd
  split at h <;> omega

theorem foldEq_13 (s : Str) : foldEq s (asc "13") = true ↔ s = asc "13" := by
  have h13 : asc "13" = [49, 51] := by decide
  rw [h13]
  constructor
  · intro h
    have hl : s.map lowerB = [49, 51] := foldEq_lower (t := [49, 51]) (by decide) h
    obtain ⟨a, s, rfl, ha, hl⟩ := List.map_eq_cons_iff.1 hl
    obtain ⟨b, s, rfl, hb, hl⟩ := List.map_eq_cons_iff.1 hl
    rw [List.map_eq_nil_iff.1 hl, lowerB_eq_of_lt (by decide) ha, lowerB_eq_of_lt (by decide) hb]
  · rintro rfl; decide

theorem lt_128_of_lowerB_eq {c x : UInt8} (hx : x < 128) (h : lowerB c = lowerB x) : c < 128 := by
  rw [UInt8.lt_iff_toNat_lt] at hx ⊢
  have h := congrArg UInt8.toNat h
  rw [lowerB_toNat, lowerB_toNat] at h
  simp at hx ⊢
  split at h <;> split at h <;> omega

theorem foldEq_of_lower_eq {t : Str} (ht : ∀ x ∈ t, x < 128) {s : Str} (h : lower s = lower t) :
    foldEq s t = true := by
  induction t generalizing s with
  | nil =>
    cases s with
    | nil => rfl
    | cons c s => simp [lower] at h
  | cons x t ih =>
    cases s with
    | nil => simp [lower] at h
    | cons c s =>
      simp only [lower, List.map_cons, List.cons.injEq] at h
      have hc : c < 128 := lt_128_of_lowerB_eq (ht x List.mem_cons_self) h.1
      unfold foldEq
      simp only [hc, ↓reduceIte, Bool.and_eq_true, beq_iff_eq]
      exact ⟨h.1, ih (fun y hy => ht y (List.mem_cons_of_mem _ hy)) h.2⟩

theorem foldEq_iff_lower {t : Str} (hks : ∀ x ∈ t, lowerB x ≠ 107 ∧ lowerB x ≠ 115)
    (ht : ∀ x ∈ t, x < 128) (s : Str) : foldEq s t = true ↔ lower s = lower t :=
  ⟨foldEq_lower hks, foldEq_of_lower_eq ht⟩

theorem lower_Upgrade : lower (asc "Upgrade") = lower (asc "upgrade") := by decide

theorem containsToken_iff (lines : List Str) :
    httpHeaderContainsToken lines (asc "Upgrade") = true ↔ HasToken lines (asc "upgrade") := by
  simp only [httpHeaderContainsToken, HasToken, List.any_eq_true, foldEq_iff_lower (t := asc "Upgrade") (by decide) (by decide),
    lower_Upgrade]

theorem firstCommon_of_ne_nil {a b : List Str} (h : intersectionElem a b ≠ []) :
    FirstCommon a b (intersectionElem a b) := by
  unfold intersectionElem at h ⊢
  cases hf : a.find? (fun x => decide (x ∈ b)) with
  | none => simp [hf] at h
  | some x =>
    obtain ⟨hx, pre, post, hsplit, hpre⟩ := List.find?_eq_some_iff_append.1 hf
    exact ⟨pre, post, hsplit, by simpa using hx, fun q hq => by simpa using hpre q hq⟩

theorem intersectionElem_ne_nil_iff (a b : List Str) (hb : ∀ x ∈ b, x ≠ []) :
    intersectionElem a b ≠ [] ↔ ∃ p, p ∈ a ∧ p ∈ b := by
  unfold intersectionElem
  cases hf : a.find? (fun x => decide (x ∈ b)) with
  | none => simpa using fun p hp => by simpa using List.find?_eq_none.1 hf p hp
  | some x =>
    have hx : x ∈ b := by simpa using List.find?_some hf
    simpa [hb x hx] using ⟨x, List.mem_of_find?_eq_some hf, hx⟩

theorem values_cons (h : Header) (a k : Str) (x : List Str) :
    values ((a, x) :: h) k = if a = k then x else values h k := by
  unfold values
  rw [List.find?_cons]
  by_cases e : a = k
  · simp [e]
  · have : (a == k) = false := by simpa using e
    simp [this, e]

theorem find?_del (h : Header) (k k' : Str) :
    (del h k).find? (fun e => e.1 == k') = if k' = canon k then none else h.find? (fun e => e.1 == k') := by
  rw [del, List.find?_filter]
  by_cases e : k' = canon k
  · rw [if_pos e, List.find?_eq_none]
    intro x _; simp [e]
  · rw [if_neg e]
    congr 1
    funext x
    by_cases hx : x.1 = k' <;> simp [hx, e]

theorem values_del (h : Header) (k k' : Str) : values (del h k) k' = if k' = canon k then [] else values h k' := by
  unfold values
  rw [find?_del]
  by_cases e : k' = canon k <;> simp [e]

theorem values_set (h : Header) (k v k' : Str) :
    values (set h k v) k' = if k' = canon k then [v] else values h k' := by
  unfold values set
  rw [List.find?_append, find?_del]
  by_cases e : k' = canon k
  · simp [e]
  · have : (canon k == k') = false := by simpa using fun h => e h.symm
    cases h.find? (fun e => e.1 == k') <;> simp [e, this]

theorem get_set_self (h : Header) (k v : Str) (hk : canon (canon k) = canon k) : get (set h k v) (canon k) = v := by
  unfold get vals; rw [hk, values_set, if_pos rfl]; rfl

theorem mem_deleteProtected {h : Header} {e : Str × List Str} :
    e ∈ deleteProtectedHeaders h ↔ e ∈ h ∧ e.1 ∉ protectedNames := by
  simp only [deleteProtectedHeaders, del, List.mem_filter, protectedNames, decide_eq_true_eq,
    List.mem_cons, List.not_mem_nil, or_false, not_or, and_assoc]

theorem values_deleteProtected (h : Header) (k : Str) (hk : k ∉ protectedNames) :
    values (deleteProtectedHeaders h) k = values h k := by
  simp only [protectedNames, List.mem_cons, List.not_mem_nil, or_false, not_or] at hk
  obtain ⟨h1, h2, h3, h4, h5⟩ := hk
  simp only [deleteProtectedHeaders, values_del, if_neg h1, if_neg h2, if_neg h3, if_neg h4, if_neg h5]

/-- the lines `WithExtraHeader` appends for the configured response header -/
def extraLines (o : ServerOpt) : List (Str × Str) :=
  (deleteProtectedHeaders o.responseHeader).map (fun e => (e.1, get (deleteProtectedHeaders o.responseHeader) e.1))

/-- the request passes the request checks of `doUpgradeFromConn` -/
def ChecksPass (r : Request) (auth : Bool) : Prop :=
  auth = true ∧ r.method = asc "GET" ∧ foldEq (get r.header kVersion) (asc "13") = true ∧
  httpHeaderContainsToken (vals r.header kConnection) (asc "Upgrade") = true ∧
  foldEq (get r.header kUpgrade) (asc "websocket") = true ∧ get r.header kKey ≠ []

theorem isAccept_ite_reject (c : Prop) [Decidable c] (e : SErr) (d : Decision) :
    (if c then Decision.reject e else d).isAccept = true ↔ ¬ c ∧ d.isAccept = true := by
  split <;> simp [Decision.isAccept, *]

theorem checksPass_of_isAccept {o : ServerOpt} {r : Request} {auth : Bool} {ext : Option Str}
    (h : (serverDecide o r auth ext).isAccept = true) : ChecksPass r auth := by
  simp only [serverDecide, isAccept_ite_reject, Bool.not_eq_false, ne_eq, Decidable.not_not] at h
  obtain ⟨h1, h2, h3, h4, h5, h6, -⟩ := h
  exact ⟨h1, h2, h3, h4, h5, h6⟩

/-- what the client offered: the elements of ALL its `Sec-WebSocket-Protocol` lines -/
def offeredProtocols (r : Request) : List Str := offered (vals r.header kProtocol)

theorem serverDecide_of_pass {o : ServerOpt} {r : Request} {auth : Bool} {ext : Option Str}
    (h : ChecksPass r auth) :
    serverDecide o r auth ext =
      if o.subProtocols ≠ [] ∧ intersectionElem o.subProtocols (offeredProtocols r) = [] then .reject .subprotocol
      else .accept ([(kUpgrade, asc "websocket"), (kConnection, asc "Upgrade")] ++ optLine kExtensions ext ++
              [(kAccept, acceptKey (get r.header kKey))] ++
              (if o.subProtocols = [] then [] else [(kProtocol, intersectionElem o.subProtocols (offeredProtocols r))]) ++
              extraLines o)
            (intersectionElem o.subProtocols (offeredProtocols r)) := by
  obtain ⟨h1, h2, h3, h4, h5, h6⟩ := h
  unfold serverDecide offeredProtocols
  simp only [h1, h2, h3, h4, h5, h6, Bool.true_eq_false, ↓reduceIte, ne_eq, not_true_eq_false]
  unfold RW.withSubProtocol
  rw [split_joinComma]
  -- in each case `ext` is split: the model matches on it where the statement has `optLine`
  by_cases hs : o.subProtocols = []
  · cases ext <;> simp [hs, intersectionElem, RW.withExtraHeader, RW.withHeader, RW.init, extraLines, optLine]
  · by_cases hi : intersectionElem o.subProtocols (offered (vals r.header kProtocol)) = []
    · cases ext <;> simp [hs, hi, RW.withExtraHeader, RW.withHeader, RW.init]
    · cases ext <;> simp [hs, hi, RW.withExtraHeader, RW.withHeader, RW.init, extraLines, optLine]

theorem isAccept_iff (o : ServerOpt) (r : Request) (auth : Bool) (ext : Option Str) :
    (serverDecide o r auth ext).isAccept = true ↔
      ChecksPass r auth ∧ (o.subProtocols = [] ∨ ∃ p, p ∈ o.subProtocols ∧ p ∈ offeredProtocols r) := by
  by_cases hp : ChecksPass r auth
  · rw [serverDecide_of_pass hp, isAccept_ite_reject,
      ← intersectionElem_ne_nil_iff _ (offeredProtocols r) (fun x hx => mem_offered_ne_nil hx)]
    simp [hp, Decision.isAccept, Decidable.or_iff_not_imp_left]
  · exact ⟨fun h => absurd (checksPass_of_isAccept h) hp, fun h => absurd h.1 hp⟩

def RespChecksPass (key : Str) (resp : Resp) : Prop :=
  resp.status = 101 ∧ httpHeaderContainsToken (vals resp.header kConnection) (asc "Upgrade") = true ∧
  foldEq (get resp.header kUpgrade) (asc "websocket") = true ∧ get resp.header kAccept = acceptKey key

theorem checkHeaders_eq_none_iff (key : Str) (resp : Resp) :
    checkHeaders key resp = none ↔ RespChecksPass key resp := by
  have step (c : Prop) [Decidable c] (e : CErr) (d : Option CErr) :
      (if c then some e else d) = none ↔ ¬ c ∧ d = none := by
    split <;> simp [*]
  simp only [checkHeaders, RespChecksPass, step, ne_eq, Decidable.not_not, Bool.not_eq_false, and_true]

theorem clientHandshake_ok_iff (o : ClientOpt) (key : Str) (resp : Resp) (sp : Str) :
    clientHandshake o key resp = .ok sp ↔
      RespChecksPass key resp ∧
      sp = intersectionElem (split (get o.requestHeader kProtocol)) (split (get resp.header kProtocol)) ∧
      (split (get o.requestHeader kProtocol) = [] ∨ sp ≠ []) := by
  rw [← checkHeaders_eq_none_iff]
  unfold clientHandshake getSubProtocol
  cases checkHeaders key resp with
  | some e => simp
  | none =>
    simp only [true_and]
    split <;> rename_i h
    · simp only [reduceCtorEq, false_iff]
      rintro ⟨rfl, hs⟩
      exact hs.elim h.1 (fun hne => hne h.2)
    · simp only [Except.ok.injEq, not_and] at h ⊢
      constructor
      · rintro rfl
        exact ⟨rfl, Decidable.or_iff_not_imp_left.2 h⟩
      · rintro ⟨rfl, -⟩; rfl

theorem conn_eq_some_iff (o : ClientOpt) (key : Str) (resp : Resp) (sp : Str) :
    (clientOutcome o key resp).conn = some sp ↔ clientHandshake o key resp = .ok sp := by
  unfold clientOutcome
  cases clientHandshake o key resp <;> simp

/-- `GET` with the RFC 6455 sample key and the given `Connection` / `Upgrade` value lists (one entry
per header line) and sub-protocol lines -/
def sampleRequest (conn upg proto : List Str) : Request :=
  { method := asc "GET",
    header := [(canon kVersion, [asc "13"]), (canon kConnection, conn), (canon kUpgrade, upg),
               (canon kKey, [asc "dGhlIHNhbXBsZSBub25jZQ=="]), (canon kProtocol, proto)] }

theorem sampleRequest_key (conn upg proto : List Str) :
    get (sampleRequest conn upg proto).header kKey = asc "dGhlIHNhbXBsZSBub25jZQ==" := by
  have h : canon kVersion ≠ canon kKey ∧ canon kConnection ≠ canon kKey ∧ canon kUpgrade ≠ canon kKey := by
    -- `String.toList_ofList`: the kernel decodes `"…".toList` slowly (see `nego_literals`, Lemmas/Nego)
    unfold kVersion kConnection kUpgrade kKey asc
    repeat rw [String.toList_ofList]
    decide +kernel
  simp only [get, vals, sampleRequest, values_cons, if_neg h.1, if_neg h.2.1, if_neg h.2.2, if_true, List.headD_cons]

/-- RFC 6455 section 1.3: the accept value for the sample key -/
theorem sample_accept : acceptKey (asc "dGhlIHNhbXBsZSBub25jZQ==") = asc "s3pPLMBiTxaQ9kYGzzhZRbK+xOo=" := by
  -- the characters of the key, the GUID and the accept value, as in `sampleRequest_key`
  simp only [acceptKey, Facts.magicNumber, asc]
  rw [String.toList_ofList, String.toList_ofList, String.toList_ofList]
  decide +kernel

def sampleResponse (conn : List Str) (accept : Str) (proto : List Str) : Resp :=
  { status := 101,
    header := [(canon kConnection, conn), (canon kUpgrade, [asc "WebSocket"]),
               (canon kAccept, [accept]), (canon kProtocol, proto)] }

end Hs
