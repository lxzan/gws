import Gws.Model.Mask
/-! The three loops of `maskXOR` against the byte-wise specification `spec`: words are handled byte by byte
(`byteOf`, `place`), the loops by one step lemma (`word8_step`). -/

namespace Mask

theorem byteOf_place (b : B8) (i j : Nat) (hi : i < 8) (hj : j < 8) :
    byteOf (place b i) j = if i = j then b else 0 := by
  unfold byteOf place
  ext k hk
  simp only [BitVec.getElem_setWidth, BitVec.getLsbD_ushiftRight, BitVec.getLsbD_shiftLeft, BitVec.getLsbD_setWidth]
  split
  · subst_vars
    have h1 : 8 * j + k < 64 := by omega
    have h2 : ¬ (8 * j + k < 8 * j) := by omega
    have h3 : 8 * j + k - 8 * j = k := by omega
    have h4 : k < 64 := by omega
    simp [h1, h2, h3, h4, BitVec.getLsbD_eq_getElem hk]
  · rename_i hne
    by_cases hlt : 8 * j + k < 8 * i
    · simp [hlt]
    · have : 8 ≤ 8 * j + k - 8 * i := by omega
      simp [BitVec.getLsbD_of_ge b _ this]

theorem byteOf_or (x y : BitVec 64) (j : Nat) : byteOf (x ||| y) j = byteOf x j ||| byteOf y j := by
  unfold byteOf; ext k hk; simp

theorem byteOf_xor (x y : BitVec 64) (j : Nat) : byteOf (x ^^^ y) j = byteOf x j ^^^ byteOf y j := by
  unfold byteOf; ext k hk; simp

theorem place_via32 (b : B8) (i : Nat) (hi : i < 4) : (b.setWidth 32 <<< (8 * i)).setWidth 64 = place b i := by
  unfold place
  ext j hj
  simp only [BitVec.getElem_setWidth, BitVec.getLsbD_shiftLeft, BitVec.getLsbD_setWidth, BitVec.getElem_shiftLeft]
  by_cases h : j < 8 * i
  · simp [h]
  · by_cases h8 : j - 8 * i < 8
    · simp [h, show j < 32 by omega, show j - 8 * i < 32 by omega]
    · simp [BitVec.getLsbD_of_ge b _ (Nat.le_of_not_lt h8)]

/-- `j` is a parameter of its own (always `i + 4`, by `rfl`) so that `rw` meets the numeral the goal has, `place b 5` and not
`place b (1 + 4)`; `word8_step` below does the same with `i + 8` -/
theorem place_shift32 (b : B8) (i j : Nat) (h : j = i + 4) : place b i <<< 32 = place b j := by
  unfold place
  rw [← BitVec.shiftLeft_add, h, Nat.mul_add]

theorem shl32_add (x y : BitVec 32) :
    (x.setWidth 64 <<< 32) + y.setWidth 64 = x.setWidth 64 <<< 32 ||| y.setWidth 64 := by
  apply BitVec.add_eq_or_of_and_eq_zero
  ext i hi
  simp only [BitVec.getElem_and, BitVec.getElem_shiftLeft, BitVec.getElem_setWidth, BitVec.getElem_zero]
  by_cases h : i < 32
  · simp [h]
  · simp [BitVec.getLsbD_of_ge y i (Nat.le_of_not_lt h)]

theorem le32_setWidth (a b c d : B8) :
    (le32 a b c d).setWidth 64 = place a 0 ||| place b 1 ||| place c 2 ||| place d 3 := by
  have h0 := place_via32 a 0 (by omega)
  rw [Nat.mul_zero, BitVec.shiftLeft_zero] at h0
  unfold le32
  rw [BitVec.setWidth_or, BitVec.setWidth_or, BitVec.setWidth_or, h0, place_via32 b 1 (by omega),
    place_via32 c 2 (by omega), place_via32 d 3 (by omega)]

/-- the modular sum in `key64` never carries: it is the key repeated twice -/
theorem key64_eq (k : Key) : key64 k = le64 k.k0 k.k1 k.k2 k.k3 k.k0 k.k1 k.k2 k.k3 := by
  unfold key64 le64
  rw [shl32_add, le32_setWidth, BitVec.shiftLeft_or_distrib, BitVec.shiftLeft_or_distrib,
    BitVec.shiftLeft_or_distrib, place_shift32 _ 0 4 rfl, place_shift32 _ 1 5 rfl, place_shift32 _ 2 6 rfl,
    place_shift32 _ 3 7 rfl, BitVec.or_comm]
  simp only [BitVec.or_assoc]

theorem byteOf_le64 (b0 b1 b2 b3 b4 b5 b6 b7 : B8) :
    let v := le64 b0 b1 b2 b3 b4 b5 b6 b7
    byteOf v 0 = b0 ∧ byteOf v 1 = b1 ∧ byteOf v 2 = b2 ∧ byteOf v 3 = b3 ∧
    byteOf v 4 = b4 ∧ byteOf v 5 = b5 ∧ byteOf v 6 = b6 ∧ byteOf v 7 = b7 := by
  simp [le64, byteOf_or, byteOf_place]

theorem Key.get_add (k : Key) (i n : Nat) (h : n % 4 = 0) : k.get (i + n) = k.get i := by
  unfold Key.get
  rw [Nat.add_mod, h, Nat.add_zero, Nat.mod_mod]

theorem Key.get_add_four (k : Key) (i : Nat) : k.get (i + 4) = k.get i := k.get_add i 4 rfl

theorem word8_spec (k : Key) (l : List B8) (h : l.length = 8) : word8 k l = spec k l := by
  match l, h with
  | [b0, b1, b2, b3, b4, b5, b6, b7], _ =>
    obtain ⟨h0, h1, h2, h3, h4, h5, h6, h7⟩ := byteOf_le64 b0 b1 b2 b3 b4 b5 b6 b7
    obtain ⟨g0, g1, g2, g3, g4, g5, g6, g7⟩ := byteOf_le64 k.k0 k.k1 k.k2 k.k3 k.k0 k.k1 k.k2 k.k3
    simp only [word8, spec, key64_eq, byteOf_xor, h0, h1, h2, h3, h4, h5, h6, h7, g0, g1, g2, g3, g4, g5, g6, g7,
      List.mapIdx_cons, List.mapIdx_nil, Key.get]

theorem tailLoop_spec (k : Key) (i : Nat) (l : List B8) :
    tailLoop k i l = l.mapIdx fun j x => x ^^^ k.get (i + j) := by
  induction l generalizing i with
  | nil => rfl
  | cons x xs ih =>
    have hk : k.get (i &&& 3) = k.get i := by
      unfold Key.get
      rw [show i &&& 3 = i % 4 from Nat.and_two_pow_sub_one_eq_mod i 2, Nat.mod_mod]
    simp only [tailLoop, List.mapIdx_cons, ih, hk, Nat.add_zero, Nat.add_assoc, Nat.add_comm 1]

theorem spec_append (k : Key) (a b : List B8) (h : a.length % 4 = 0) :
    spec k (a ++ b) = spec k a ++ spec k b := by
  simp only [spec, List.mapIdx_append, k.get_add _ _ h]

theorem sl_append_drop (b : List B8) (i j : Nat) (hij : i ≤ j) : sl b i j ++ b.drop j = b.drop i := by
  unfold sl
  have : b.drop j = (b.drop i).drop (j - i) := by rw [List.drop_drop]; congr 1; omega
  rw [this, List.take_append_drop]

theorem word8_step (k : Key) (b : List B8) (i j : Nat) (hj : j = i + 8) (hl : j ≤ b.length) :
    word8 k (sl b i j) ++ spec k (b.drop j) = spec k (b.drop i) := by
  have h8 : (sl b i j).length = 8 := by unfold sl; simp; omega
  rw [word8_spec k _ h8, ← spec_append k _ _ (by rw [h8]), sl_append_drop b i j (by omega)]

theorem loop8_spec (k : Key) (b : List B8) : loop8 k b = spec k b := by
  fun_induction loop8 k b with
  | case1 b h ih => rw [ih]; exact word8_step k b 0 8 rfl h
  | case2 b h => rw [tailLoop_spec]; unfold spec; simp

theorem maskXOR_spec (k : Key) (b : List B8) : maskXOR k b = spec k b := by
  fun_induction maskXOR k b with
  | case1 b h ih =>
    simp only [ih, List.append_assoc]
    -- from the right: each step needs `spec k (b.drop j)` to its right; what is left is `spec k (b.drop 0)`
    rw [word8_step k b 56 64 rfl h, word8_step k b 48 56 rfl (by omega), word8_step k b 40 48 rfl (by omega),
      word8_step k b 32 40 rfl (by omega), word8_step k b 24 32 rfl (by omega), word8_step k b 16 24 rfl (by omega),
      word8_step k b 8 16 rfl (by omega), word8_step k b 0 8 rfl (by omega)]
    rfl
  | case2 b h => exact loop8_spec k b

end Mask
