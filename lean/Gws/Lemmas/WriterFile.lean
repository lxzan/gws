import Gws.Lemmas.WriterFrame
/-!
# A streamed message (`WriteFile`): the frames of a script and how they decode

`fileWire`: the bytes of the callback's frame, including the RSV1 bit OR-ed into the first frame.  `framesOf`: the frames of
a whole script; `framesOf_decodes` reads them back with the RFC decoder from any frame index, `framesOf_message` is the
whole message.
-/

namespace Writer

theorem b0_or64 : ∀ (op : Fin 16) (fin : Bool),
    UInt8.ofNat ((op.val + (if fin then 128 else 0) + (if false then 64 else 0)) % 256) ||| 64 =
      UInt8.ofNat ((op.val + (if fin then 128 else 0) + (if true then 64 else 0)) % 256) := by decide

theorem setRsv1_wireFrame (z isServer fin : Bool) (opcode : Nat) (body key : Bytes) (hop : opcode < 16) :
    (if z then setRsv1 (wireFrame isServer fin false opcode body key) else wireFrame isServer fin false opcode body key) =
      wireFrame isServer fin z opcode body key := by
  cases z
  · rfl
  · unfold wireFrame
    rw [if_pos rfl, genHeader_layout, genHeader_layout]
    simp only [List.cons_append, setRsv1]
    have := b0_or64 ⟨opcode, hop⟩ fin
    simp only at this
    rw [this]

theorem fileOp_lt {opcode : Nat} (hop : opcode < 16) (index : Nat) :
    (if index > 0 then Facts.opContinuation else opcode) < 16 := by
  split
  · decide
  · exact hop

def fileWire (cfg : Cfg) (opcode index : Nat) (eof : Bool) (p key : Bytes) : Bytes :=
  wireFrame cfg.isServer eof (cfg.pdEnabled && index == 0) (if index > 0 then Facts.opContinuation else opcode) p key

theorem fileFrame_ok (cfg : Cfg) (codec : Codec) (opcode index : Nat) (eof : Bool) (p key : Bytes)
    (hop : opcode < 16) (hk : key.length = 4) (hmax : p.length ≤ cfg.writeMax) :
    fileFrame cfg codec false opcode index eof p key = .ok (fileWire cfg opcode index eof p key) := by
  unfold fileFrame fileWire
  have hz : willCompress cfg { fin := eof, compress := false, broadcast := false, checkEncoding := false }
      (if index > 0 then Facts.opContinuation else opcode) [p].flatten.length = false := by simp [willCompress]
  simp only []
  rw [genFrame_pass hk (by simp [buffersCheck_false]) (by simpa using hmax) (.inl hz), hz, sentBody_plain hz,
    ← setRsv1_wireFrame (cfg.pdEnabled && index == 0) _ _ _ _ _ (fileOp_lt hop index)]
  simp only [List.flatten_cons, List.flatten_nil, List.append_nil, Bool.false_eq_true, ↓reduceIte, Bool.and_eq_true,
    beq_iff_eq]

theorem fileFrame_error {cfg : Cfg} {codec : Codec} {closed : Bool} {opcode index : Nat} {eof : Bool} {p key : Bytes} {e : WErr}
    (h : fileFrame cfg codec closed opcode index eof p key = .error e) :
    e = .connClosed ∨ e = .textEncoding ∨ e = .messageTooLarge := by
  unfold fileFrame at h
  simp only [] at h
  split at h
  · rename_i hg
    cases h
    exact .inr (genFrame_error hg)
  · split at h
    · cases h; exact .inl rfl
    · cases h

/-- frames produced for a script by a callback that always succeeds with `g` -/
def framesOf (g : Nat → Bool → Bytes → Bytes) : Nat → ReaderScript → List Bytes
  | _, [] => []
  | i, (p, eof) :: rest => g i eof p :: (if eof then [] else framesOf g (i + 1) rest)

theorem readChunks_cons (p : Bytes) (eof : Bool) (rest : ReaderScript) :
    readChunks ((p, eof) :: rest) = if eof then ([p], true) else (p :: (readChunks rest).1, (readChunks rest).2) := by
  simp [readChunks]

theorem framesOf_append (g : Nat → Bool → Bytes → Bytes) (s : ReaderScript) :
    ∀ (a : List Bytes) (i : Nat), framesOf g i (a.map (·, false) ++ s) =
      framesOf g i (a.map (·, false)) ++ framesOf g (i + a.length) s := by
  intro a
  induction a with
  | nil => intro i; simp [framesOf]
  | cons x xs ih =>
    intro i
    simp only [List.map_cons, List.cons_append, framesOf, Bool.false_eq_true, ↓reduceIte, List.length_cons]
    rw [ih (i + 1)]
    congr 3
    omega

theorem readChunks_append (s : ReaderScript) :
    ∀ (a : List Bytes), readChunks (a.map (·, false) ++ s) = (a ++ (readChunks s).1, (readChunks s).2) := by
  intro a
  induction a with
  | nil => simp
  | cons x xs ih => simp [readChunks_cons, ih]

theorem splitReader_eq (cb : Nat → Bool → Bytes → Except WErr Bytes) (g : Nat → Bool → Bytes → Bytes) (L : Nat)
    (hcb : ∀ i e p, p.length ≤ L → cb i e p = .ok (g i e p)) :
    ∀ (reads : ReaderScript) (i : Nat), (∀ c ∈ (readChunks reads).1, c.length ≤ L) → (readChunks reads).2 = true →
      splitReader cb reads i = (framesOf g i reads, none) := by
  intro reads
  induction reads with
  | nil => intro i _ h; simp [readChunks] at h
  | cons hd tl ih =>
    intro i hL heof
    obtain ⟨p, eof⟩ := hd
    rw [readChunks_cons] at hL heof
    unfold splitReader framesOf
    cases eof
    · simp only [Bool.false_eq_true, ↓reduceIte] at hL heof ⊢
      rw [hcb i false p (hL p (by simp))]
      simp only
      rw [ih (i + 1) (fun c hc => hL c (by simp [hc])) heof]
    · simp only [↓reduceIte] at hL ⊢
      rw [hcb i true p (hL p (by simp))]

theorem framesOf_decodes (cfg : Cfg) (opcode : Nat) (keys : Nat → Bytes) (hop : opcode < 16) (hkeys : ∀ i, (keys i).length = 4) :
    ∀ (s : ReaderScript) (i : Nat) (rest : Bytes), (readChunks s).2 = true → (∀ c ∈ (readChunks s).1, c.length < 2 ^ 63) →
      ∃ (fs : List (Spec.Hdr × Bytes)) (k : Nat),
        Spec.decodeFrames ((framesOf (fun i e p => fileWire cfg opcode i e p (keys i)) i s).flatten ++ rest) =
          (Spec.decodeFrames rest).map (fs ++ ·) ∧
        fs.map (·.2) = (readChunks s).1 ∧
        (∀ f ∈ fs, Spec.wellFormedSent (!cfg.isServer) f.1) ∧
        fs.map (·.1.opcode) = (if i > 0 then Facts.opContinuation else opcode) :: List.replicate k 0 ∧
        fs.map (·.1.fin) = List.replicate k false ++ [true] ∧
        fs.map (·.1.rsv1) = (cfg.pdEnabled && i == 0) :: List.replicate k false := by
  intro s
  induction s with
  | nil => intro i rest h; simp [readChunks] at h
  | cons hd tl ih =>
    intro i rest heof hL
    obtain ⟨p, eof⟩ := hd
    rw [readChunks_cons] at heof hL ⊢
    have hp : p.length < 2 ^ 63 := hL p (by cases eof <;> simp)
    unfold framesOf
    simp only [List.flatten_cons, List.append_assoc]
    rw [fileWire]
    cases eof
    · simp only [Bool.false_eq_true, ↓reduceIte] at heof hL ⊢
      obtain ⟨fs, k, h1, h2, h3, h4, h5, h6⟩ := ih (i + 1) rest heof (fun c hc => hL c (by simp [hc]))
      rw [wireFrame_decodes _ _ _ _ _ _ _ (fileOp_lt hop i) (by omega) (hkeys i), h1]
      refine ⟨(sentHdr cfg.isServer false (cfg.pdEnabled && i == 0) (if i > 0 then Facts.opContinuation else opcode) p.length
        (keys i), p) :: fs, k + 1, by simp [Option.map_map, Function.comp_def], by simp [h2], ?_, ?_, ?_, ?_⟩
      · intro f hf
        rcases List.mem_cons.mp hf with rfl | hf
        · exact sentHdr_wf _ _ _ _ _ _ hp (hkeys i)
        · exact h3 f hf
      · simp [h4, sentHdr, Facts.opContinuation, List.replicate_succ]
      · simp [h5, sentHdr, List.replicate_succ]
      · simp [h6, sentHdr, List.replicate_succ]
    · simp only [↓reduceIte, List.flatten_nil, List.nil_append] at heof hL ⊢
      rw [wireFrame_decodes _ _ _ _ _ _ _ (fileOp_lt hop i) (by omega) (hkeys i)]
      exact ⟨[(sentHdr cfg.isServer true (cfg.pdEnabled && i == 0) (if i > 0 then Facts.opContinuation else opcode) p.length
        (keys i), p)], 0, by simp, by simp, by
          intro f hf
          rw [List.mem_singleton.mp hf]
          exact sentHdr_wf _ _ _ _ _ _ hp (hkeys i), by simp [sentHdr], by simp [sentHdr], by simp [sentHdr]⟩

theorem framesOf_message (cfg : Cfg) (opcode : Nat) (keys : Nat → Bytes) (hop : opcode < 16) (hkeys : ∀ i, (keys i).length = 4)
    (s : ReaderScript) (heof : (readChunks s).2 = true) (hL : ∀ c ∈ (readChunks s).1, c.length < 2 ^ 63) :
    ∃ fs, Spec.decodeFrames (framesOf (fun i e p => fileWire cfg opcode i e p (keys i)) 0 s).flatten = some fs ∧ fs ≠ [] ∧
      Spec.messageShape opcode cfg.pdEnabled (fs.map (·.1)) ∧
      (∀ f ∈ fs, Spec.wellFormedSent (!cfg.isServer) f.1) ∧
      fs.map (·.2) = (readChunks s).1 := by
  obtain ⟨fs, k, h1, h2, h3, h4, h5, h6⟩ := framesOf_decodes cfg opcode keys hop hkeys s 0 [] heof hL
  rw [List.append_nil, Spec.decodeFrames_nil] at h1
  have hk : fs.length = k + 1 := by simpa using congrArg List.length h4
  have hne : fs ≠ [] := List.ne_nil_of_length_eq_add_one hk
  refine ⟨fs, by simpa using h1, hne, ⟨by simpa using hne, ?_, ?_, ?_⟩, h3, h2⟩ <;>
    simp only [List.map_map, Function.comp_def, List.length_map, hk, Nat.add_sub_cancel]
  · exact h4
  · exact h5
  · simpa using h6

end Writer
