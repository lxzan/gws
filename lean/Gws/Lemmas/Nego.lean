import Gws.Model.Nego
/-!
# Lemmas about the negotiation model

String level: the model's `splitOn` and `join` are core's `List.splitOn` and `List.intercalate`, so
that splitting a joined list is core's `List.splitOn_intercalate`; `trim`, `splitN2`, `contains`,
`atoi ∘ itoa`.  Parser: what one parameter does to the state (`Act`), the order-independence of the
loop, a generated header read back one optional parameter at a time.  Handshake: its complete
evaluation (`handshake_on`, `handshake_off`).

The vocabulary of C12's statements and of these lemmas (`Item`, `render`, `Clean`, `InRange`, `conveyed`, `agreed`) is
defined here too, each where it is first needed.
-/

namespace Nego

/-- one element of an extension parameter list as it appears on the wire: the parameter text with
arbitrary ASCII white space on both sides -/
structure Item where
  left : Str
  param : Str
  right : Str
deriving Repr, DecidableEq

def AllSpace (s : Str) : Prop := ∀ c ∈ s, isSpace c = true

/-- padding is white space; the parameter itself does not contain the list separator -/
def Item.Ok (i : Item) : Prop := AllSpace i.left ∧ AllSpace i.right ∧ ';' ∉ i.param

def Item.text (i : Item) : Str := i.left ++ i.param ++ i.right

/-- the header value: the padded parameters separated by `;` -/
def render (is : List Item) : Str := join [';'] (is.map Item.text)

theorem splitOn_eq (sep : Char) (s : Str) : splitOn sep s = s.splitOn sep := by
  induction s with
  | nil => rfl
  | cons c cs ih =>
    -- core's equation has `modifyHead` where the model matches on the split rest, which is never empty
    have := List.splitOn_ne_nil sep cs
    simp only [splitOn, List.splitOn_cons_eq_if_modifyHead, ih, beq_iff_eq]
    cases h : cs.splitOn sep <;> simp_all

theorem join_eq (sep : Str) (ws : List Str) : join sep ws = sep.intercalate ws := by
  fun_induction join sep ws with
  | case1 => rfl
  | case2 a => simp
  | case3 a b r ih => rw [ih, List.intercalate_cons_cons, List.append_assoc]

theorem intercalate_cons_sep {α : Type} (c : α) (pad a : List α) (r : List (List α)) :
    (c :: pad).intercalate (a :: r) = [c].intercalate (a :: r.map (pad ++ ·)) := by
  induction r generalizing a with
  | nil => simp
  | cons b r ih =>
    have hb : ∀ zs, [c].intercalate ((pad ++ b) :: zs) = pad ++ [c].intercalate (b :: zs) := by
      intro zs; cases zs <;> simp
    simp [ih, hb]

theorem dropWhile_allSpace (l : Str) (h : AllSpace l) : l.dropWhile isSpace = [] := by
  simpa using List.dropWhile_append_of_pos (l₂ := []) h

theorem trim_nil : trim [] = [] := rfl

theorem trim_allSpace (l : Str) (h : AllSpace l) : trim l = [] := by
  simp [trim, trimLeft, trimRight, dropWhile_allSpace l h]

theorem trim_append_left (l s : Str) (h : AllSpace l) : trim (l ++ s) = trim s := by
  simp [trim, trimLeft, List.dropWhile_append_of_pos h]

theorem trim_append_right (s r : Str) (h : AllSpace r) : trim (s ++ r) = trim s := by
  have hr : AllSpace r.reverse := fun c hc => h c (by simpa using hc)
  simp only [trim, trimLeft, List.dropWhile_append, dropWhile_allSpace r h]
  split
  · rename_i he
    have : List.dropWhile isSpace s = [] := by simpa using he
    simp [this, trimRight]
  · simp [trimRight, List.dropWhile_append_of_pos hr]

theorem trim_padded (l p r : Str) (hl : AllSpace l) (hr : AllSpace r) : trim (l ++ p ++ r) = trim p := by
  rw [trim_append_right _ _ hr, trim_append_left _ _ hl]

theorem allSpace_no_semi (l : Str) (h : AllSpace l) : ';' ∉ l := by
  intro hm
  have := h _ hm
  revert this; decide

theorem split_join_pad (pad : Str) (hp : AllSpace pad) (ws : List Str) (h : ∀ w ∈ ws, ';' ∉ w) :
    split (join (';' :: pad) ws) = (ws.map trim).filter (fun t => t ≠ []) := by
  cases ws with
  | nil => rfl
  | cons a r =>
    -- the padding goes to the front of the pieces it precedes, where `trim` removes it after the split
    rw [List.forall_mem_cons] at h
    have hs : ∀ w ∈ a :: r.map (pad ++ ·), ';' ∉ w := by
      simp only [List.forall_mem_cons, List.forall_mem_map, List.mem_append, not_or]
      exact ⟨h.1, fun v hv => ⟨allSpace_no_semi pad hp, h.2 v hv⟩⟩
    rw [join_eq, intercalate_cons_sep, split, splitOn_eq, List.splitOn_intercalate _ hs (List.cons_ne_nil _ _),
      List.map_cons, List.map_map]
    congr 2
    exact List.map_congr_left (fun w _ => trim_append_left pad w hp)

/-- a token as the header generators emit it: not empty, no `;`, no white space at either end -/
def Clean (t : Str) : Prop := t ≠ [] ∧ ';' ∉ t ∧ trim t = t

instance (t : Str) : Decidable (Clean t) := by unfold Clean; infer_instance

theorem split_join (ts : List Str) (h : ∀ t ∈ ts, Clean t) : split (join sep ts) = ts := by
  have hp : AllSpace [' '] := by unfold AllSpace; decide
  rw [show sep = ';' :: [' '] from rfl, split_join_pad _ hp ts (fun t ht => (h t ht).2.1),
    List.map_congr_left (g := id) (fun t ht => (h t ht).2.2), List.map_id]
  exact List.filter_eq_self.2 (fun t ht => by simpa using (h t ht).1)

theorem permessageNegotiation_render (xs : List Item) (hx : ∀ i ∈ xs, i.Ok) :
    permessageNegotiation (render xs) = parseParams ((xs.map (fun i => trim i.param)).filter (fun t => t ≠ [])) := by
  unfold permessageNegotiation render
  rw [split_join_pad [] (fun _ h => nomatch h)]
  · congr 2
    rw [List.map_map]
    apply List.map_congr_left
    intro i hi
    obtain ⟨hl, hr, _⟩ := hx i hi
    exact trim_padded _ _ _ hl hr
  · intro w hw
    obtain ⟨i, hi, rfl⟩ := List.mem_map.1 hw
    obtain ⟨hl, hr, hp⟩ := hx i hi
    simp only [Item.text, List.mem_append, not_or]
    exact ⟨⟨allSpace_no_semi _ hl, hp⟩, allSpace_no_semi _ hr⟩

theorem splitN2_append_noeq (k r : Str) (h : '=' ∉ k) : splitN2 (k ++ r) = (k ++ (splitN2 r).1, (splitN2 r).2) := by
  induction k with
  | nil => rfl
  | cons c cs ih =>
    have hc : c ≠ '=' := fun e => h (by simp [e])
    have hcs : '=' ∉ cs := fun e => h (by simp [e])
    simp [splitN2, hc, ih hcs]

theorem splitN2_noeq (k : Str) (h : '=' ∉ k) : splitN2 k = (k, none) := by
  simpa [splitN2] using splitN2_append_noeq k [] h

theorem splitN2_eq (k v : Str) (h : '=' ∉ k) : splitN2 (k ++ '=' :: v) = (k, some v) := by
  simpa [splitN2] using splitN2_append_noeq k ('=' :: v) h

theorem contains_prefix (sub rest : Str) : contains (sub ++ rest) sub = true := by
  unfold contains
  split
  · rename_i h; simp [(List.append_eq_nil_iff.1 h).1]
  · rename_i h; simp [List.isPrefixOf_iff_prefix]

theorem contains_join_head (a : Str) (r : List Str) : contains (join sep (a :: r)) a = true := by
  cases r with
  | nil => simpa [join] using contains_prefix a []
  | cons b r' => simpa [join, List.append_assoc] using contains_prefix a (sep ++ join sep (b :: r'))

theorem parseUintLoop_digit {d n : Nat} (hd : d < 10) (hn : n * 10 + d ≤ maxUint64) (rest : Str) :
    parseUintLoop (Nat.digitChar d :: rest) n = parseUintLoop rest (n * 10 + d) := by
  have h1 := Nat.toNat_digitChar_of_lt_ten hd
  unfold maxUint64 at hn
  have h2 : ¬ n ≥ maxUint64 / 10 + 1 := by unfold maxUint64; omega
  have h3 : ¬ n * 10 + d > maxUint64 := by unfold maxUint64; omega
  have h4 : 48 + d ≤ 57 := by omega
  simp [parseUintLoop, isDigit, h1, h2, h3, h4]

theorem parseUintLoop_toDigits (m : Nat) (hm : m ≤ maxUint64) (rest : Str) :
    parseUintLoop (Nat.toDigits 10 m ++ rest) 0 = parseUintLoop rest m := by
  induction m using Nat.strongRecOn generalizing rest with
  | _ m ih =>
    by_cases h : m < 10
    · rw [Nat.toDigits_of_lt_base h, List.singleton_append, parseUintLoop_digit h (by omega), Nat.zero_mul, Nat.zero_add]
    · have hd : m % 10 < 10 := by omega
      rw [Nat.toDigits_of_base_le (by decide) (by omega), List.append_assoc, List.singleton_append,
        ih (m / 10) (by omega) (by omega), parseUintLoop_digit hd (by omega), Nat.div_add_mod' m 10]

theorem atoi_itoa (n : Int) (hlo : minInt64 ≤ n) (hhi : n ≤ maxInt64) : atoi (itoa n) = n := by
  unfold minInt64 at hlo; unfold maxInt64 at hhi
  cases n with
  | ofNat m =>
    have hhi' : (m : Int) ≤ 9223372036854775807 := hhi
    have hp := parseUintLoop_toDigits m (by unfold maxUint64; omega) []
    simp only [List.append_nil, parseUintLoop] at hp
    cases hs : Nat.toDigits 10 m with
    | nil => exact absurd hs Nat.toDigits_ne_nil
    | cons c cs =>
      -- the first character is a digit, so no sign is stripped
      have hc : c.isDigit = true := Nat.isDigit_of_mem_toDigits (b := 10) (n := m) (by decide) (by decide) (by simp [hs])
      have hplus : c ≠ '+' := by intro e; subst e; revert hc; decide
      have hminus : c ≠ '-' := by intro e; subst e; revert hc; decide
      rw [hs] at hp
      have h63 : ¬ m ≥ 2 ^ 63 := by omega
      simp [itoa, atoi, hs, hplus, hminus, hp, h63]
  | negSucc k =>
    have hp := parseUintLoop_toDigits (k + 1) (by unfold maxUint64; omega) []
    simp only [List.append_nil, parseUintLoop] at hp
    have h63 : ¬ k + 1 > 2 ^ 63 := by omega
    simp [itoa, atoi, hp, h63, Int.negSucc_eq]

/-- what one parameter does to the parser state -/
inductive Act where
  | nop
  | noServerCtx
  | noClientCtx
  | capServer (x : Int)
  | capClient (x : Int)

/-- classification of a parameter (the `switch pair[0]` of `permessageNegotiation`) -/
def act (s : Str) : Act :=
  let pair := splitN2 s
  if pair.1 = pmd then .nop
  else if pair.1 = sNoCtx then .noServerCtx
  else if pair.1 = cNoCtx then .noClientCtx
  else if pair.1 = sBits then
    match pair.2 with
    | some v => .capServer (withDefault (atoi v) 15)
    | none => .nop
  else if pair.1 = cBits then
    match pair.2 with
    | some v => .capClient (withDefault (atoi v) 15)
    | none => .nop
  else .nop

def Act.apply (o : PD) : Act → PD
  | .nop => o
  | .noServerCtx => { o with serverTakeover := false }
  | .noClientCtx => { o with clientTakeover := false }
  | .capServer x => { o with serverBits := imin o.serverBits x }
  | .capClient x => { o with clientBits := imin o.clientBits x }

theorem applyParam_eq (o : PD) (s : Str) : applyParam o s = (act s).apply o := by
  simp only [applyParam, act]
  cases (splitN2 s).2 <;> simp only [apply_ite (Act.apply o)] <;> rfl

theorem imin_eq_min (a b : Int) : imin a b = min a b := by
  unfold imin; split <;> omega

theorem imin_right_comm (a b c : Int) : imin (imin a b) c = imin (imin a c) b := by
  simp only [imin_eq_min]; omega

theorem imin_right_idem (a b : Int) : imin (imin a b) b = imin a b := by
  simp only [imin_eq_min]; omega

theorem imin_le_left (a b : Int) : imin a b ≤ a := by
  rw [imin_eq_min]; omega

theorem imin_15 {n : Int} (h : n ≤ 15) : imin 15 n = n := by
  rw [imin_eq_min, Int.min_eq_right h]

/-- parameters commute: each one clears a flag or lowers a cap -/
theorem Act.apply_comm (o : PD) (a b : Act) : b.apply (a.apply o) = a.apply (b.apply o) := by
  cases a <;> cases b <;> simp only [Act.apply, imin_right_comm]

theorem Act.apply_idem (o : PD) (a : Act) : a.apply (a.apply o) = a.apply o := by
  cases a <;> simp only [Act.apply, imin_right_idem]

theorem Act.apply_bits_le (o : PD) (a : Act) :
    (a.apply o).serverBits ≤ o.serverBits ∧ (a.apply o).clientBits ≤ o.clientBits := by
  cases a <;> simp only [Act.apply, imin_le_left, Int.le_refl, and_self]

theorem applyParam_comm (o : PD) (a b : Str) : applyParam (applyParam o a) b = applyParam (applyParam o b) a := by
  simp only [applyParam_eq]; exact Act.apply_comm o (act a) (act b)

theorem parseParams_perm {ps qs : List Str} (h : ps.Perm qs) : parseParams ps = parseParams qs := by
  unfold parseParams
  congr 1
  exact List.Perm.foldl_eq' h (fun x _ y _ z => applyParam_comm z x y) _

theorem foldl_applyParam_mem {p : Str} {ps : List Str} (hp : p ∈ ps) (o : PD) :
    ps.foldl applyParam (applyParam o p) = ps.foldl applyParam o := by
  induction ps generalizing o with
  | nil => cases hp
  | cons q qs ih =>
    rw [List.foldl_cons, List.foldl_cons]
    rcases List.mem_cons.1 hp with rfl | h
    · rw [applyParam_eq, applyParam_eq, Act.apply_idem]
    · rw [applyParam_comm, ih h]

theorem foldl_applyParam_bits_le (ps : List Str) (o : PD) :
    (ps.foldl applyParam o).serverBits ≤ o.serverBits ∧ (ps.foldl applyParam o).clientBits ≤ o.clientBits := by
  induction ps generalizing o with
  | nil => exact ⟨Int.le_refl _, Int.le_refl _⟩
  | cons p ps ih =>
    have h := Act.apply_bits_le o (act p)
    rw [List.foldl_cons, applyParam_eq]
    exact ⟨Int.le_trans (ih _).1 h.1, Int.le_trans (ih _).2 h.2⟩

/-- To be run before `decide +kernel` on a statement that involves the five names.  The kernel decodes `"…".toList`
slowly (quadratic in the length) but holds a string literal as `String.ofList [chars]`: this unfolds the parser, the
generators and the names down to the generated literals and rewrites every `(String.ofList cs).toList` to `cs`. -/
macro "nego_literals" : tactic => `(tactic| (
  delta permessageNegotiation parseParams applyParam genRequestHeader genResponseHeader requestOptions responseOptions
    pmd sNoCtx cNoCtx sBits cBits
    Facts.pmdName Facts.pmdServerNoCtx Facts.pmdClientNoCtx Facts.pmdServerBits Facts.pmdClientBits
  repeat rw [String.toList_ofList]))

theorem token_facts :
    (sNoCtx ≠ pmd ∧ cNoCtx ≠ pmd ∧ cNoCtx ≠ sNoCtx ∧ sBits ≠ pmd ∧ sBits ≠ sNoCtx ∧ sBits ≠ cNoCtx ∧
     cBits ≠ pmd ∧ cBits ≠ sNoCtx ∧ cBits ≠ cNoCtx ∧ cBits ≠ sBits) ∧
    ∀ t ∈ [pmd, sNoCtx, cNoCtx, sBits, cBits], '=' ∉ t := by
  nego_literals; decide +kernel

theorem act_pmd : act pmd = .nop := by
  simp [act, splitN2_noeq _ (token_facts.2 pmd (by simp))]

theorem act_sNoCtx : act sNoCtx = .noServerCtx := by
  simp [act, splitN2_noeq _ (token_facts.2 sNoCtx (by simp)), token_facts.1]

theorem act_cNoCtx : act cNoCtx = .noClientCtx := by
  simp [act, splitN2_noeq _ (token_facts.2 cNoCtx (by simp)), token_facts.1]

/-- the bare `client_max_window_bits` of an offer has no effect (`len(pair) == 1`) -/
theorem act_cBits_bare : act cBits = .nop := by
  simp [act, splitN2_noeq _ (token_facts.2 cBits (by simp)), token_facts.1]

theorem act_sBits_bare : act sBits = .nop := by
  simp [act, splitN2_noeq _ (token_facts.2 sBits (by simp)), token_facts.1]

theorem act_sBits_eq (v : Str) : act (sBits ++ '=' :: v) = .capServer (withDefault (atoi v) 15) := by
  simp [act, splitN2_eq _ _ (token_facts.2 sBits (by simp)), token_facts.1]

theorem act_cBits_eq (v : Str) : act (cBits ++ '=' :: v) = .capClient (withDefault (atoi v) 15) := by
  simp [act, splitN2_eq _ _ (token_facts.2 cBits (by simp)), token_facts.1]

theorem act_unknown (s : Str) (h1 : (splitN2 s).1 ≠ pmd) (h2 : (splitN2 s).1 ≠ sNoCtx) (h3 : (splitN2 s).1 ≠ cNoCtx)
    (h4 : (splitN2 s).1 ≠ sBits) (h5 : (splitN2 s).1 ≠ cBits) : act s = .nop := by
  simp [act, h1, h2, h3, h4, h5]

def InRange (n : Int) : Prop := 8 ≤ n ∧ n ≤ 15

theorem inRange_mem {n : Int} (h : InRange n) : n ∈ [8, 9, 10, 11, 12, 13, 14, (15 : Int)] := by
  unfold InRange at h
  simp only [List.mem_cons, List.not_mem_nil, or_false]
  omega

theorem atoi_itoa_inRange {n : Int} (h : InRange n) : atoi (itoa n) = n :=
  atoi_itoa n (Int.le_trans (by decide) h.1) (Int.le_trans h.2 (by decide))

theorem clean_tokens : ∀ t ∈ [pmd, sNoCtx, cNoCtx, cBits], Clean t := by
  nego_literals; decide +kernel

theorem clean_bits : ∀ n ∈ [8, 9, 10, 11, 12, 13, 14, (15 : Int)],
    Clean (sBits ++ '=' :: itoa n) ∧ Clean (cBits ++ '=' :: itoa n) := by
  nego_literals; decide +kernel

theorem withDefault_inRange {n : Int} (h : InRange n) : withDefault n 15 = n := by
  unfold InRange at h; unfold withDefault; split <;> omega

theorem foldl_opt (o : PD) (c : Prop) [Decidable c] (t : Str) :
    List.foldl applyParam o (if c then [t] else []) = if c then applyParam o t else o := by
  split <;> rfl

theorem eq_of_mem_opt {α : Type} {c : Prop} [Decidable c] {a t : α} (h : t ∈ if c then [a] else []) : t = a := by
  split at h <;> simp_all

theorem requestOptions_eq (p : PD) :
    requestOptions p = responseOptions p ++ (if p.clientBits = 15 ∧ p.clientTakeover = true then [cBits] else []) := by
  unfold requestOptions responseOptions
  by_cases h : p.clientBits = 15 <;> simp [h]

theorem responseOptions_clean (p : PD) (hs : InRange p.serverBits) (hc : InRange p.clientBits) :
    ∀ t ∈ responseOptions p, Clean t := by
  intro t ht
  simp only [responseOptions, List.mem_append, List.mem_singleton] at ht
  rcases ht with (((rfl | ht) | ht) | ht) | ht
  · exact clean_tokens _ (by simp)
  · rw [eq_of_mem_opt ht]; exact clean_tokens _ (by simp)
  · rw [eq_of_mem_opt ht]; exact clean_tokens _ (by simp)
  · rw [eq_of_mem_opt ht]; exact (clean_bits _ (inRange_mem hs)).1
  · rw [eq_of_mem_opt ht]; exact (clean_bits _ (inRange_mem hc)).2

theorem requestOptions_clean (p : PD) (hs : InRange p.serverBits) (hc : InRange p.clientBits) :
    ∀ t ∈ requestOptions p, Clean t := by
  intro t ht
  rw [requestOptions_eq, List.mem_append] at ht
  rcases ht with ht | ht
  · exact responseOptions_clean p hs hc t ht
  · rw [eq_of_mem_opt ht]; exact clean_tokens _ (by simp)

/-- the view of the four negotiable fields that a header conveys -/
def conveyed (p : PD) : PD :=
  { parseInit with serverTakeover := p.serverTakeover, clientTakeover := p.clientTakeover,
                   serverBits := p.serverBits, clientBits := p.clientBits }

theorem opt_sNoCtx (o : PD) (b : Bool) :
    List.foldl applyParam o (if !b then [sNoCtx] else []) = { o with serverTakeover := b && o.serverTakeover } := by
  rw [foldl_opt, applyParam_eq, act_sNoCtx]; cases b <;> rfl

theorem opt_cNoCtx (o : PD) (b : Bool) :
    List.foldl applyParam o (if !b then [cNoCtx] else []) = { o with clientTakeover := b && o.clientTakeover } := by
  rw [foldl_opt, applyParam_eq, act_cNoCtx]; cases b <;> rfl

theorem opt_sBits (o : PD) {n : Int} (h : InRange n) (ho : o.serverBits = 15) :
    List.foldl applyParam o (if n ≠ 15 then [sBits ++ '=' :: itoa n] else []) = { o with serverBits := n } := by
  rw [foldl_opt, applyParam_eq, act_sBits_eq, atoi_itoa_inRange h, withDefault_inRange h, Act.apply, ho, imin_15 h.2]
  split
  · rfl
  · -- `n = 15`: no parameter is emitted, and the field holds 15 already (`ho`)
    rename_i h'; rw [Decidable.not_not.1 h', ← ho]

theorem opt_cBits (o : PD) {n : Int} (h : InRange n) (ho : o.clientBits = 15) :
    List.foldl applyParam o (if n ≠ 15 then [cBits ++ '=' :: itoa n] else []) = { o with clientBits := n } := by
  rw [foldl_opt, applyParam_eq, act_cBits_eq, atoi_itoa_inRange h, withDefault_inRange h, Act.apply, ho, imin_15 h.2]
  split
  · rfl
  · rename_i h'; rw [Decidable.not_not.1 h', ← ho]  -- as in `opt_sBits`

theorem clamp8_of_le (o : PD) (hs : 8 ≤ o.serverBits) (hc : 8 ≤ o.clientBits) : clamp8 o = o := by
  simp [clamp8, Int.not_lt.2 hs, Int.not_lt.2 hc]

theorem parseParams_responseOptions (p : PD) (hs : InRange p.serverBits) (hc : InRange p.clientBits) :
    parseParams (responseOptions p) = conveyed p := by
  rw [parseParams, responseOptions, List.foldl_append, List.foldl_append, List.foldl_append, List.foldl_append,
    List.foldl_cons, List.foldl_nil, applyParam_eq, act_pmd, Act.apply,
    opt_sNoCtx, opt_cNoCtx, opt_sBits _ hs rfl, opt_cBits _ hc rfl, ← clamp8_of_le (conveyed p) hs.1 hc.1]
  simp [conveyed, parseInit]

theorem parseParams_requestOptions (p : PD) (hs : InRange p.serverBits) (hc : InRange p.clientBits) :
    parseParams (requestOptions p) = conveyed p := by
  rw [← parseParams_responseOptions p hs hc, requestOptions_eq, parseParams, parseParams, List.foldl_append, foldl_opt,
    applyParam_eq, act_cBits_bare, Act.apply, ite_self]

theorem parse_request (p : PD) (hs : InRange p.serverBits) (hc : InRange p.clientBits) :
    permessageNegotiation (genRequestHeader p) = conveyed p := by
  rw [permessageNegotiation, genRequestHeader, split_join _ (requestOptions_clean p hs hc),
    parseParams_requestOptions p hs hc]

theorem parse_response (p : PD) (hs : InRange p.serverBits) (hc : InRange p.clientBits) :
    permessageNegotiation (genResponseHeader p) = conveyed p := by
  rw [permessageNegotiation, genResponseHeader, split_join _ (responseOptions_clean p hs hc),
    parseParams_responseOptions p hs hc]

theorem contains_nil_pmd : contains [] pmd = false := by nego_literals; rfl

theorem contains_request (p : PD) : contains (genRequestHeader p) pmd = true :=
  contains_join_head pmd _

theorem contains_response (p : PD) : contains (genResponseHeader p) pmd = true :=
  contains_join_head pmd _

@[simp] theorem setThreshold_update (b : Bool) (p : PD) :
    setThreshold b p =
      { p with threshold := if (b && p.serverTakeover) || (!b && p.clientTakeover) then 0 else p.threshold } := by
  unfold setThreshold; split <;> rfl

theorem normServer_on (s : PD) (h : s.enabled = true) :
    (normServer s).enabled = true ∧ (normServer s).serverTakeover = s.serverTakeover ∧
    (normServer s).clientTakeover = s.clientTakeover ∧
    InRange (normServer s).serverBits ∧ InRange (normServer s).clientBits ∧ 0 < (normServer s).threshold := by
  unfold normServer InRange
  simp only [h, if_true]
  refine ⟨trivial, trivial, trivial, ?_, ?_, ?_⟩
  · repeat' split
    all_goals omega
  · repeat' split
    all_goals omega
  · split
    · decide
    · omega

theorem normClient_on (c : PD) (h : c.enabled = true) :
    (normClient c).enabled = true ∧ (normClient c).serverTakeover = c.serverTakeover ∧
    (normClient c).clientTakeover = c.clientTakeover ∧
    InRange (normClient c).serverBits ∧ InRange (normClient c).clientBits ∧ 0 < (normClient c).threshold := by
  unfold normClient InRange
  simp only [h, if_true]
  refine ⟨trivial, trivial, trivial, ?_, ?_, ?_⟩
  · repeat' split
    all_goals omega
  · repeat' split
    all_goals omega
  · split
    · decide
    · omega

theorem normServer_off (s : PD) (h : s.enabled = false) : normServer s = s := by simp [normServer, h]
theorem normClient_off (c : PD) (h : c.enabled = false) : normClient c = c := by simp [normClient, h]

/-- the parameters both ends arrive at when both enabled compression: the flags are the
conjunction of the two settings, the window sizes are the server's normalised settings -/
def agreed (s c : PD) (threshold : Int) : PD :=
  { enabled := true
    serverTakeover := c.serverTakeover && s.serverTakeover
    clientTakeover := c.clientTakeover && s.clientTakeover
    serverBits := (normServer s).serverBits
    clientBits := (normServer s).clientBits
    threshold := threshold }

theorem serverGetPD_request (so co : PD) (hs : InRange co.serverBits) (hc : InRange co.clientBits) :
    serverGetPD so (genRequestHeader co) = setThreshold true
      { enabled := so.enabled, serverTakeover := co.serverTakeover && so.serverTakeover,
        clientTakeover := co.clientTakeover && so.clientTakeover, serverBits := so.serverBits,
        clientBits := so.clientBits, threshold := so.threshold } := by
  unfold serverGetPD
  simp only [parse_request _ hs hc, contains_request, conveyed, Bool.and_true]

theorem clientGetPD_response (co spd : PD) (hs : InRange spd.serverBits) (hc : InRange spd.clientBits) :
    clientGetPD co (genResponseHeader spd) = setThreshold false
      { enabled := co.enabled, serverTakeover := spd.serverTakeover, clientTakeover := spd.clientTakeover,
        serverBits := spd.serverBits, clientBits := spd.clientBits, threshold := co.threshold } := by
  unfold clientGetPD
  simp only [parse_response _ hs hc, contains_response, conveyed, Bool.and_true]

theorem handshake_on (s c : PD) (hs : s.enabled = true) (hc : c.enabled = true) :
    handshake s c =
      { server := setThreshold true (agreed s c (normServer s).threshold)
        client := setThreshold false (agreed s c (normClient c).threshold)
        offer := some (genRequestHeader (normClient c))
        response := some (genResponseHeader (setThreshold true (agreed s c (normServer s).threshold))) } := by
  obtain ⟨se, sst, sct, ssr, scr, -⟩ := normServer_on s hs
  obtain ⟨ce, cst, cct, csr, ccr, -⟩ := normClient_on c hc
  -- the server reads the client's offer, whose window sizes are in range after `normClient`
  have hspd : serverGetPD (normServer s) (genRequestHeader (normClient c))
      = setThreshold true (agreed s c (normServer s).threshold) := by
    rw [serverGetPD_request _ _ csr ccr, se, cst, cct, sst, sct]; rfl
  unfold handshake
  simp only [ce, if_true, Option.getD_some, hspd]
  -- the server's result is enabled, so the response is sent; the client reads it back, its window sizes being the
  -- server's normalised ones (`ssr`, `scr`: `setThreshold` changes the threshold only)
  rw [if_pos (by rw [setThreshold_update]; rfl), Option.getD_some,
    clientGetPD_response _ _ (by rw [setThreshold_update]; exact ssr) (by rw [setThreshold_update]; exact scr), ce]
  simp only [setThreshold_update]
  rfl

theorem handshake_off (s c : PD) (h : ¬ (s.enabled = true ∧ c.enabled = true)) :
    (handshake s c).server.enabled = false ∧ (handshake s c).client.enabled = false ∧
    (handshake s c).response = none := by
  -- the server ends up disabled: no offer to find the extension in, or disabled by its own setting
  have h1 : (handshake s c).server.enabled = false := by
    cases hc : c.enabled with
    | false => simp [handshake, serverGetPD, normClient_off c hc, hc, contains_nil_pmd]
    | true =>
      have hs : s.enabled = false := by simpa [hc] using h
      simp [handshake, serverGetPD, normServer_off s hs, hs]
  -- so it sends no header, and the client finds no extension in the empty value
  have h2 : (handshake s c).response = none := by
    simp only [handshake] at h1 ⊢
    rw [if_neg (by simp [h1])]
  refine ⟨h1, ?_, h2⟩
  simp only [handshake] at h2 ⊢
  simp [h2, clientGetPD, contains_nil_pmd]

end Nego
