import Gws.Lemmas.Conc.Own
/-! The pieces that several paths of the library share, seen from one location `x` with cell `c`: a
non-final fragment, the framing of a library-owned source, the streamed part of a compressed `WriteFile`
(and with it that whole path); and what `doWrite` and `readMessage` do at each of their locations (used
for ownership, for the critical sections and for the teardown). -/
namespace Own

@[simp, own_proj] theorem bufOps_optl (x : Buf) (c : Bool) (l : List Ev) : bufOps x (optl c l) = if c then bufOps x l else [] := by
  cases c <;> rfl
@[simp, own_proj] theorem callerOps_optl (y : CBuf) (c : Bool) (l : List Ev) :
    callerOps y (optl c l) = if c then callerOps y l else [] := by
  cases c <;> rfl
@[simp, own_proj] theorem bufOps_optmap (x : Buf) (d : Option Buf) (op : BOp) :
    bufOps x (d.toList.map fun d => Ev.buf d op) = if d = some x then [op] else [] := by
  cases d with
  | none => simp
  | some v => simp only [Option.toList_some, List.map_cons, List.map_nil, bufOps_buf, bufOps_nil, Option.some.injEq]
@[simp, own_proj] theorem callerOps_optmap (y : CBuf) (d : Option Buf) (op : BOp) :
    callerOps y (d.toList.map fun d => Ev.buf d op) = [] := by
  cases d <;> simp

theorem fragment_at (masked : Bool) (p : Pid) (k a x : Buf) (c : Cell) (hak : a ≠ k)
    (ha : x = a → c.own = .pool) (hk : x = k → c.own = .lib p) :
    runCell c (bufOps x (fragment masked p k a)) = some c := by
  simp only [fragment]
  by_cases h1 : x = a
  · subst h1; rw [cell_pool_eta (ha rfl)]; simp only [own_proj, *]; simp only [own_run]
  by_cases h2 : x = k
  · subst h2; have := hk rfl; simp only [own_proj, *]; simp only [own_run, *]
  · simp only [own_proj, *]; simp only [own_run]

theorem callerOps_fragment (masked : Bool) (p : Pid) (k a : Buf) (y : CBuf) :
    callerOps y (fragment masked p k a) = [] := by
  simp only [fragment, own_proj]

theorem frameFrom_at (client : Bool) (p : Pid) (src f x : Buf) (c : Cell) (hsf : src ≠ f)
    (hf : x = f → c.own = .pool) (hsrc : x = src → c.usable p) :
    runCell c (bufOps x (frameFrom client p src f)) = some c := by
  simp only [frameFrom]
  by_cases h0 : x = f
  · subst h0; rw [cell_pool_eta (hf rfl)]; simp only [own_proj, *]; simp only [own_run]
  by_cases h1 : x = src
  · subst h1; have := hsrc rfl; simp only [own_proj, *]; simp only [own_run, *]
  · simp only [own_proj, *]; simp only [own_run]

theorem callerOps_frameFrom (client : Bool) (p : Pid) (src f : Buf) (y : CBuf) :
    callerOps y (frameFrom client p src f) = [] := by
  simp only [frameFrom, own_proj]

theorem segment_at (client : Bool) (p : Pid) (s f x : Buf) (c : Cell) (hsf : s ≠ f)
    (hf : x = f → c.own = .pool) (hs : x = s → c.own = .lib p) :
    runCell c (bufOps x (Ev.libWrite s p :: frameFrom client p s f)) = some c := by
  have fr := frameFrom_at client p s f x c hsf hf fun e => Or.inl (hs e)
  by_cases h1 : x = s
  · subst h1; rw [bufOps_self, runCell_write (Or.inl (hs rfl)), fr]
  · rw [bufOps_ne' h1, fr]

/-- all buffers of the streamed part, in order -/
def midBufs (mid : List (Buf × Buf)) : List Buf := mid.flatMap fun x => [x.1, x.2]

theorem lastBuf_mem (cur : Buf) (mid : List (Buf × Buf)) : lastBuf cur mid = cur ∨ lastBuf cur mid ∈ midBufs mid := by
  induction mid generalizing cur with
  | nil => exact Or.inl rfl
  | cons x rest ih =>
    obtain ⟨b', f⟩ := x
    simp only [lastBuf, midBufs, List.flatMap_cons, List.cons_append, List.nil_append, List.mem_cons]
    rcases ih b' with e | e
    · exact Or.inr (Or.inl e)
    · exact Or.inr (Or.inr (Or.inr e))

theorem stream1_at (client : Bool) (p : Pid) (z r cur b' f x : Buf) (c : Cell)
    (hzr : z ≠ r) (hzc : z ≠ cur) (hzb : z ≠ b') (hzf : z ≠ f) (hrc : r ≠ cur) (hrb : r ≠ b') (hrf : r ≠ f)
    (hcb : cur ≠ b') (hcf : cur ≠ f) (hbf : b' ≠ f)
    (hz : x = z → c.usable p) (hr : x = r → c.usable p) (hcur : x = cur → c.own = .lib p)
    (hb : x = b' → c.own = .pool) (hf : x = f → c.own = .pool) :
    runCell c (bufOps x ([.libWrite r p, .libRead r p, .libWrite z p, .get b' p, .libRead z p, .libWrite b' p] ++
        frameFrom client p cur f ++ [.put cur p])) =
      some (if x = b' then ⟨.lib p, c.held⟩ else if x = cur then ⟨.pool, c.held⟩ else c) := by
  simp only [frameFrom]
  by_cases h0 : x = z
  · subst h0; have := hz rfl; simp only [own_proj, *]; simp only [own_run, *]
  by_cases h1 : x = r
  · subst h1; have := hr rfl; simp only [own_proj, *]; simp only [own_run, *]
  by_cases h2 : x = cur
  · subst h2; rw [cell_lib_eta (hcur rfl)]; simp only [own_proj, *]; simp only [own_run, *]
  by_cases h3 : x = b'
  · subst h3; rw [cell_pool_eta (hb rfl)]; simp only [own_proj, *]; simp only [own_run, *]
  by_cases h4 : x = f
  · subst h4; rw [cell_pool_eta (hf rfl)]; simp only [own_proj, *]; simp only [own_run, *]
  · simp only [own_proj, *]; simp only [own_run, *]

theorem streamFrom_at (client : Bool) (p : Pid) (z r x : Buf) (mid : List (Buf × Buf)) (cur : Buf) (c : Cell)
    (hzr : z ≠ r) (hnd : (cur :: midBufs mid).Nodup) (hz' : z ∉ cur :: midBufs mid) (hr' : r ∉ cur :: midBufs mid)
    (hz : x = z → c.usable p) (hr : x = r → c.usable p)
    (hcur : x = cur → c.own = .lib p) (hpool : x ∈ midBufs mid → c.own = .pool) :
    runCell c (bufOps x (streamFrom client p z r cur mid)) =
      some (if x = lastBuf cur mid then ⟨.lib p, c.held⟩ else if x = cur then ⟨.pool, c.held⟩ else c) := by
  induction mid generalizing cur c with
  | nil =>
    simp only [streamFrom, lastBuf, bufOps_nil, runCell_nil]
    split
    · rw [← cell_lib_eta (hcur ‹_›)]
    · rfl
  | cons bf rest ih =>
    obtain ⟨b', f⟩ := bf
    simp only [midBufs, List.flatMap_cons, List.cons_append, List.nil_append, List.nodup_cons, List.mem_cons,
      not_or] at hnd hz' hr' hpool
    obtain ⟨⟨hcb, hcf, hcrest⟩, ⟨hbf, hbrest⟩, hfrest, hndrest⟩ := hnd
    obtain ⟨hzc, hzb, hzf, hzrest⟩ := hz'
    obtain ⟨hrc, hrb, hrf, hrrest⟩ := hr'
    have e : streamFrom client p z r cur ((b', f) :: rest) =
        ([.libWrite r p, .libRead r p, .libWrite z p, .get b' p, .libRead z p, .libWrite b' p] ++
          frameFrom client p cur f ++ [.put cur p]) ++ streamFrom client p z r b' rest := by
      simp only [streamFrom, List.append_assoc]
    have hL : lastBuf b' rest ≠ cur := by
      rcases lastBuf_mem b' rest with e | e
      · rw [e]; exact Ne.symm hcb
      · exact fun e' => hcrest (e' ▸ e)
    have hnd' : (b' :: midBufs rest).Nodup := List.nodup_cons.mpr ⟨hbrest, hndrest⟩
    have hz'' : z ∉ b' :: midBufs rest := by simp [midBufs, hzb, hzrest]
    have hr'' : r ∉ b' :: midBufs rest := by simp [midBufs, hrb, hrrest]
    rw [e, bufOps_append, runCell_append,
      stream1_at client p z r cur b' f x c hzr hzc hzb hzf hrc hrb hrf hcb hcf hbf hz hr hcur
        (fun e => hpool (Or.inl e)) (fun e => hpool (Or.inr (Or.inl e))),
      Option.bind_some, lastBuf]
    by_cases h0 : x = b'
    · subst h0
      rw [if_pos rfl, ih x ⟨.lib p, c.held⟩ hnd' hz'' hr'' (fun e => absurd e.symm hzb) (fun e => absurd e.symm hrb)
        (fun _ => rfl) (fun e => absurd e hbrest)]
      simp only [if_true, Ne.symm hcb, if_false]
      split
      · rfl
      · exact congrArg some (cell_pool_eta (hpool (Or.inl rfl))).symm
    · rw [if_neg h0]
      by_cases h1 : x = cur
      · subst h1
        rw [if_pos rfl, ih b' ⟨.pool, c.held⟩ hnd' hz'' hr'' (fun e => absurd e.symm hzc) (fun e => absurd e.symm hrc)
          (fun e => absurd e h0) (fun e => absurd e hcrest)]
        simp only [hL.symm, h0, if_false]
      · rw [if_neg h1, ih b' c hnd' hz'' hr'' hz hr (fun e => absurd e h0) (fun e => hpool (Or.inr (Or.inr e)))]
        simp only [h0, if_false]

theorem callerOps_streamFrom (client : Bool) (p : Pid) (z r : Buf) (y : CBuf) (mid : List (Buf × Buf)) (cur : Buf) :
    callerOps y (streamFrom client p z r cur mid) = [] := by
  induction mid generalizing cur with
  | nil => rfl
  | cons bf rest ih => obtain ⟨b', f⟩ := bf; simp only [streamFrom, frameFrom, own_proj, ih]

theorem writeFileCompressed_at (window client early : Bool) (p : Pid) (m z r b0 : Buf) (mid : List (Buf × Buf))
    (fLast x : Buf) (c : Cell) (om : Owner) (kz : Option Pid)
    (hnd : (m :: z :: r :: fLast :: b0 :: midBufs mid).Nodup)
    (hm : x = m → c = ⟨om, none⟩) (hw : window = true → om = .guarded)
    (hz : x = z → c = ⟨if client then .guarded else .pool, kz⟩) (hzc : client = true → kz = none)
    (hpool : x ∈ r :: fLast :: b0 :: midBufs mid → c.own = .pool)
    (hearly : early = false → mid = []) :
    runCell c (bufOps x (writeFileCompressed window client early p m z r b0 mid fLast)) = some c := by
  simp only [List.nodup_cons, List.mem_cons, not_or] at hnd
  obtain ⟨⟨hmz, hmr, hmf, hmb, hmmid⟩, ⟨hzr, hzf, hzb, hzmid⟩, ⟨hrf, hrb, hrmid⟩, ⟨hfb, hfmid⟩, hbmid, hndmid⟩ := hnd
  -- `L`, the buffer that is open when the input ends, is `b0` or one of those opened while streaming
  have hL : ∀ y, y ≠ b0 → y ∉ midBufs mid → y ≠ lastBuf b0 mid := fun y h1 h2 e => by
    rcases lastBuf_mem b0 mid with e' | e'
    · exact h1 (e.trans e')
    · exact h2 (e ▸ e')
  have hLmem : lastBuf b0 mid ∈ r :: fLast :: b0 :: midBufs mid := by
    rcases lastBuf_mem b0 mid with e | e <;> simp [e]
  have hLb : early = false → lastBuf b0 mid = b0 := fun e => by rw [hearly e]; rfl
  -- the streamed part at `x`, from whatever cell `wfcPre` has left there (each case below instantiates it: `hst`)
  have st := fun c => streamFrom_at client p z r x mid b0 c hzr (List.nodup_cons.mpr ⟨hbmid, hndmid⟩)
    (by simp [hzb, hzmid]) (by simp [hrb, hrmid])
  -- at a location that is none of its buffers the streamed part only uses (`z`, `r`) or does nothing
  have stU : ∀ c : Cell, x ≠ b0 → x ∉ midBufs mid → (x = z ∨ x = r → c.usable p) →
      runCell c (bufOps x (streamFrom client p z r b0 mid)) = some c := fun c h1 h2 hu => by
    rw [st c (fun e => hu (Or.inl e)) (fun e => hu (Or.inr e)) (fun e => absurd e h1) (fun e => absurd e h2),
      if_neg (hL x h1 h2), if_neg h1]
  simp only [writeFileCompressed, bufOps_append]
  generalize lastBuf b0 mid = L at *
  simp only [wfcPre, wfcPost, frameFrom, bigDeflaterGet_eq, bigDeflaterPut_eq]
  by_cases h0 : x = m
  · subst h0; rw [hm rfl]
    have hst := stU ⟨om, some p⟩ hmb hmmid (by simp [hmz, hmr])
    have hLm := hL x hmb hmmid
    simp only [own_proj, *]
    cases window
    · simp only [own_run]; rw [runCell_seq hst]; simp only [own_run]
    · cases hw rfl; simp only [own_run]; rw [runCell_seq hst]; simp only [own_run]
  by_cases h1 : x = z
  · subst h1; rw [hz rfl]
    have hLz := hL x hzb hzmid
    simp only [own_proj, *]
    cases client
    · have hst := stU ⟨.lib p, kz⟩ hzb hzmid fun _ => Or.inl rfl
      simp only [own_run]; rw [runCell_seq hst]; simp only [own_run]
    · cases hzc rfl
      have hst := stU ⟨.guarded, some p⟩ hzb hzmid fun _ => Or.inr ⟨rfl, rfl⟩
      simp only [own_run]; rw [runCell_seq hst]; simp only [own_run]
  by_cases h2 : x = r
  · subst h2; rw [cell_pool_eta (hpool (by simp))]
    have hst := stU ⟨.lib p, c.held⟩ hrb hrmid fun _ => Or.inl rfl
    have hLr := hL x hrb hrmid
    simp only [own_proj, *]; simp only [own_run]; rw [runCell_seq hst]; simp only [own_run]
  by_cases h3 : x = fLast
  · subst h3; rw [cell_pool_eta (hpool (by simp))]
    have hst := stU ⟨.pool, c.held⟩ hfb hfmid (by simp [h1, h2])
    have hLf := hL x hfb hfmid
    simp only [own_proj, *]; rw [runCell_seq hst]; simp only [own_run]
  by_cases h4 : x = L
  · subst h4; rw [cell_pool_eta (hpool hLmem)]
    by_cases h5 : x = b0
    · -- `L = b0`: opened while the input is read, or (a small input) only by `Flush`
      subst h5
      cases early
      · cases hearly rfl; simp only [streamFrom, own_proj, *]; simp only [own_run]
      · have hst := st ⟨.lib p, c.held⟩ (fun e => absurd e h1) (fun e => absurd e h2) (fun _ => rfl)
          (fun e => absurd e hbmid)
        rw [if_pos rfl] at hst
        simp only [own_proj, *]; simp only [own_run]; rw [runCell_seq hst]; simp only [own_run]
    · cases early
      · exact absurd (hLb rfl) h5
      have hst := st ⟨.pool, c.held⟩ (fun e => absurd e h1) (fun e => absurd e h2) (fun e => absurd e h5)
        (fun _ => rfl)
      rw [if_pos rfl] at hst
      simp only [own_proj, *]; rw [runCell_seq hst]; simp only [own_run]
  by_cases h5 : x = b0
  · subst h5; rw [cell_pool_eta (hpool (by simp))]
    cases early
    · exact absurd (hLb rfl).symm h4
    have hst := st ⟨.lib p, c.held⟩ (fun e => absurd e h1) (fun e => absurd e h2) (fun _ => rfl)
      (fun e => absurd e hbmid)
    rw [if_neg h4, if_pos rfl] at hst
    simp only [own_proj, *]; simp only [own_run, *]
  · -- a buffer opened and given back while streaming, or a location not touched at all
    have hst := st c (fun e => absurd e h1) (fun e => absurd e h2) (fun e => absurd e h5)
      (fun e => hpool (by simp [e]))
    rw [if_neg h4, if_neg h5] at hst
    simp only [own_proj, *]

theorem writeFrame_at_mu (compressed window client : Bool) (p : Pid) (c : CBuf) (m z f : Buf)
    (hmz : m ≠ z) (hmf : m ≠ f) :
    bufOps m (writeFrame compressed window client p c m z f) =
      .lock p :: ((if compressed && window then [.read p] else []) ++ (if window then [.write p] else []) ++
        [.unlock p]) := by
  simp only [writeFrame, own_proj, *]
  cases compressed <;> cases window <;> rfl

theorem writeFrame_at_writer (compressed window client : Bool) (p : Pid) (c : CBuf) (m z f : Buf)
    (hmz : m ≠ z) (hzf : z ≠ f) :
    bufOps z (writeFrame compressed window client p c m z f) =
      if compressed then [.lock p, .write p, .unlock p] else [] := by
  simp only [writeFrame, own_proj, *]

theorem writeFrame_at_other (compressed window client : Bool) (p : Pid) (c : CBuf) (m z f x : Buf)
    (hm : x ≠ m) (hz : x ≠ z) (hf : x ≠ f) : bufOps x (writeFrame compressed window client p c m z f) = [] := by
  simp only [writeFrame, own_proj, *]

theorem writeFrame_callerOps_other (compressed window client : Bool) (p : Pid) (c y : CBuf) (m z f : Buf)
    (hc : y ≠ c) : callerOps y (writeFrame compressed window client p c m z f) = [] := by
  simp only [writeFrame, own_proj, *]

/-- `doWrite` finds the connection closed: nothing but the lock and the lend -/
theorem writeFrameClosed_run (p : Pid) (c : CBuf) (m : Buf) (h : Heap) (om : Owner)
    (hc : h.lent c = none) (hm : h.cell m = ⟨om, none⟩) :
    run h (writeFrameClosed p c m) = some h := by
  refine (run_eq_some_iff _ _ _).mpr ⟨fun x => ?_, fun y => ?_⟩
  · simp only [writeFrameClosed]
    by_cases h0 : x = m
    · subst h0; simp only [own_proj, *]; simp only [own_run]
    · simp only [own_proj, *]; simp only [own_run]
  · simp only [writeFrameClosed]
    by_cases h0 : y = c
    · subst h0; simp only [own_proj, *]; simp only [own_run]
    · simp only [own_proj, *]; simp only [own_run]

theorem readSingle_at_scratch (compressed masked closeNow : Bool) (p : Pid) (a b s : Buf) (d : Option Buf)
    (has : a ≠ s) (hbs : b ≠ s) (hds : d ≠ some s) :
    bufOps s (readSingle compressed masked closeNow p a b s d) =
      if compressed then [.lock p, .write p, .read p, .unlock p] else [] := by
  simp only [readSingle, inflate, handler, own_proj, *]

theorem readSingle_at_other (compressed masked closeNow : Bool) (p : Pid) (a b s x : Buf) (d : Option Buf)
    (ha : x ≠ a) (hb : x ≠ b) (hs : x ≠ s) (hd : d ≠ some x) :
    bufOps x (readSingle compressed masked closeNow p a b s d) = [] := by
  simp only [readSingle, inflate, handler, own_proj, *]

theorem readSingle_callerOps (compressed masked closeNow : Bool) (p : Pid) (a b s : Buf) (d : Option Buf) (y : CBuf) :
    callerOps y (readSingle compressed masked closeNow p a b s d) = [] := by
  simp only [readSingle, inflate, handler, own_proj]

end Own
