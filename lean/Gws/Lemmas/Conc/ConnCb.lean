import Gws.Lemmas.Conc.ConnKinds
/-!
# Callbacks of the read loop (I7 of the design)

* `CbLast` (state only): when no read loop is running, the callback log is empty or ends with `OnClose`.
* `RSInv`: a spawned reader that is past `OnOpen` has logged something.
* `RInv` (schedules with at most one reader, `Sched1R`): the log is `opened`, then one `message` per
  consumed `.msg` item of the script, then — once the reader is done — one `closedCb`.
-/

namespace Conc

/-- a close sequence run by the read loop -/
def Cont.isReader : Cont → Bool
  | .ret _ => false
  | _ => true

/-- a read loop that has not yet delivered `OnClose` -/
def Pc.readerActive : Pc → Bool
  | .rOpen _ | .rLoop _ | .rOnClose => true
  | .cCas c | .kLock c | .kWrite c | .cTclose c => c.isReader
  | _ => false

def CbLast (s : State) : Prop :=
  (∀ b, (s.pc b).readerActive = false) → s.cbs = [] ∨ ∃ c, s.cbs.getLast? = some (.closedCb c)

theorem cblast_init : CbLast {} := by
  intro _; left; rfl

theorem Trans.readerActive {s t : State} {a : Nat} {f : Bool} {q p' : Pc} (ht : Trans s a f q t p') :
    (q.readerActive = false ∧ t.cbs = s.cbs) ∨
    (q.readerActive = true ∧ (p'.readerActive = true ∨ ∃ x, t.cbs = s.cbs ++ [.closedCb x])) := by
  cases ht <;> simp_all [Pc.readerActive, Cont.isReader]

theorem cblast_step {s s' : State} {x : Action} (hi : CbLast s) (h : step s x = some s') : CbLast s' := by
  unfold CbLast at *
  cases x with
  | spawn a k =>
    obtain ⟨rfl, hidle⟩ := spawn_cases h
    intro hb
    apply hi
    intro b
    by_cases hba : b = a
    · rw [hba, hidle]; rfl
    · simpa [pc_setPc, hba] using hb b
  | act a f =>
    obtain ⟨t, p', rfl, hp, ht⟩ := act_cases h
    have := ht.readerActive
    simp only [pc_after hp, setPc_cbs]
    grind [List.getLast?_concat]

/-- with `CbLast`: a reader that has returned has logged `OnClose` (`teardown`) -/
def RSInv (K : Nat → Option Kind) (s : State) : Prop :=
  ∀ a sc, K a = some (.reader sc) → (∃ sc', s.pc a = .rOpen sc') ∨ s.cbs ≠ []

theorem rsinv_step {K : Nat → Option Kind} {s s' : State} {x : Action} (hi : RSInv K s)
    (h : step s x = some s') : RSInv (updK K x) s' := by
  cases x with
  | spawn a k =>
    obtain ⟨rfl, hidle⟩ := spawn_cases h
    intro b sc
    simp only [updK, pc_setPc, setPc_cbs]
    by_cases hb : b = a
    · subst hb
      simp only [if_true]
      intro hk; cases hk
      left; exact ⟨sc, rfl⟩
    · simp only [hb, if_false]; exact hi b sc
  | act a f =>
    obtain ⟨t, p', rfl, hp, ht⟩ := act_cases h
    intro b sc hb
    rw [pc_after hp, setPc_cbs]
    rcases hi b sc hb with ⟨sc', hsc⟩ | hne
    · by_cases hba : b = a
      · subst hba
        rw [hsc] at ht
        cases ht
        right; simp
      · left; exact ⟨sc', by rw [if_neg hba, hsc]⟩
    · right
      rcases ht.cbs with e | ⟨c, e, -⟩ <;> rw [e]
      · exact hne
      · simp

def Sched1R (xs : List Action) : Prop :=
  ∀ a b sa sb, Action.spawn a (.reader sa) ∈ xs → Action.spawn b (.reader sb) ∈ xs → a = b

theorem Sched1R.prefix {xs : List Action} {x : Action} (h : Sched1R (xs ++ [x])) : Sched1R xs :=
  fun a b sa sb ha hb => h a b sa sb (List.mem_append_left _ ha) (List.mem_append_left _ hb)

def OneReader (K : Nat → Option Kind) : Prop :=
  ∀ a b ka kb, K a = some ka → K b = some kb → ka.isReader = true → kb.isReader = true → a = b

theorem oneReader_of_sched {xs : List Action} (h : Sched1R xs) : OneReader (kindMap xs) := by
  intro a b ka kb ha hb hka hkb
  cases ka <;> simp [Kind.isReader] at hka
  cases kb <;> simp [Kind.isReader] at hkb
  exact h a b _ _ (kindMap_mem ha) (kindMap_mem hb)

/-- the log `cbs` of the reader with script `sc`, by program counter -/
def RState (sc : List Inbound) (cbs : List Cb) : Pc → Prop
  | .rOpen sc' => sc' = sc ∧ cbs = []
  | .rLoop sc' => ∃ m, sc = List.replicate m .msg ++ sc' ∧ cbs = .opened :: List.replicate m .message
  | .cCas _ | .kLock _ | .kWrite _ | .cTclose _ | .rOnClose =>
    ∃ m rest, sc = List.replicate m .msg ++ rest ∧ rest.head? ≠ some .msg ∧
      cbs = .opened :: List.replicate m .message
  | .done _ =>
    ∃ m rest c, sc = List.replicate m .msg ++ rest ∧ rest.head? ≠ some .msg ∧
      cbs = .opened :: List.replicate m .message ++ [.closedCb c]
  | _ => False

def NoReader (K : Nat → Option Kind) : Prop := ∀ a k, K a = some k → k.isReader = false

structure RInv (K : Nat → Option Kind) (s : State) : Prop where
  reader : ∀ a sc, K a = some (.reader sc) → RState sc s.cbs (s.pc a)
  noReader : NoReader K → s.cbs = []

theorem rinv_init : RInv (kindMap []) {} :=
  ⟨by intro a sc h; simp at h, fun _ => rfl⟩

theorem Typed.isReader_of_active {k : Kind} {q : Pc} (h : Typed k q) (ha : q.readerActive = true) :
    k.isReader = true := by
  cases q <;> simp_all [Typed, Pc.readerActive]
  all_goals (rename_i c; cases c <;> simp_all [ContTyped, Cont.isReader])

theorem cbs_changed_reader {K : Nat → Option Kind} {s t : State} {a : Nat} {f : Bool} {p' : Pc}
    (hk : KInv K s) (ht : Trans s a f (s.pc a) t p') :
    t.cbs = s.cbs ∨ ∃ k, K a = some k ∧ k.isReader = true := by
  rcases ht.readerActive with ⟨-, e⟩ | ⟨hq, -⟩
  · exact Or.inl e
  · obtain ⟨k, hka, hty⟩ := hk.kind_of_ne_idle ht.ne_idle
    exact Or.inr ⟨k, hka, hty.isReader_of_active hq⟩

theorem rinv_spawn {K : Nat → Option Kind} {s s' : State} {a : Nat} {k : Kind}
    (h1 : OneReader (updK K (.spawn a k))) (hk : KInv K s) (hi : RInv K s)
    (h : step s (.spawn a k) = some s') : RInv (updK K (.spawn a k)) s' := by
  obtain ⟨rfl, hidle⟩ := spawn_cases h
  have hka : K a = none := hk.of_idle hidle
  have hold : ∀ c kc, K c = some kc → c ≠ a ∧ updK K (.spawn a k) c = some kc := by
    intro c kc hc
    have hca : c ≠ a := by intro e; rw [e, hka] at hc; cases hc
    exact ⟨hca, by simp [updK, hca, hc]⟩
  constructor
  · intro b sc hb
    simp only [pc_setPc, setPc_cbs]
    by_cases hba : b = a
    · -- the new actor is the reader: with one reader there was none before, so nothing is logged
      subst hba
      have hkb : k = .reader sc := by simpa [updK] using hb
      subst hkb
      simp only [if_true, startPc, RState, true_and]
      apply hi.noReader
      intro c kc hc
      cases hr : kc.isReader with
      | false => rfl
      | true => exact ((hold c kc hc).1 (h1 c b kc _ (hold c kc hc).2 hb hr rfl)).elim
    · simp only [hba, if_false]
      exact hi.reader b sc (by simpa [updK, hba] using hb)
  · intro hn
    rw [setPc_cbs]
    exact hi.noReader fun c kc hc => hn c kc (hold c kc hc).2

theorem Trans.rstate_own {s t : State} {a : Nat} {f : Bool} {q p' : Pc} {sc : List Inbound}
    (ht : Trans s a f q t p') (hty : Typed (.reader sc) q) (hib : RState sc s.cbs q) :
    RState sc t.cbs p' := by
  cases ht with
  | tcloseRet r => cases r <;> simp_all [Typed, ContTyped, Kind.isWriter]
  | rEnd =>
    obtain ⟨m, h1, h2⟩ := hib
    exact ⟨m, [], by simpa using h1, by simp, h2⟩
  | rMsg sc' =>
    obtain ⟨m, h1, h2⟩ := hib
    refine ⟨m + 1, by rw [h1, List.replicate_succ']; simp, ?_⟩
    rw [addCb_cbs, h2, List.replicate_succ']; simp
  | rPeerClose sc' | rReadErr sc' =>
    obtain ⟨m, h1, h2⟩ := hib
    exact ⟨m, _, h1, by simp, h2⟩
  | rOnClose =>
    obtain ⟨m, rest, h1, h2, h3⟩ := hib
    exact ⟨m, rest, s.causeStored, h1, h2, by rw [addCb_cbs, h3]⟩
  | _ => simp_all [RState, Typed, ContTyped, Kind.isWriter, Kind.isReader]

theorem rinv_act {K : Nat → Option Kind} {s s' : State} {a : Nat} {f : Bool}
    (h1 : OneReader K) (hk : KInv K s) (hi : RInv K s)
    (h : step s (.act a f) = some s') : RInv K s' := by
  obtain ⟨t, p', rfl, hp, ht⟩ := act_cases h
  have hch := cbs_changed_reader hk ht
  constructor
  · intro b sc hb
    rw [pc_after hp, setPc_cbs]
    by_cases hba : b = a
    · subst hba
      rw [if_pos rfl]
      exact ht.rstate_own (hk.typed hb) (hi.reader b sc hb)
    · -- with one reader, an action of another actor leaves the log alone
      rcases hch with e | ⟨k, hka, hr⟩
      · rw [if_neg hba, e]; exact hi.reader b sc hb
      · exact (hba (h1 b a _ k hb hka rfl hr)).elim
  · intro hn
    rw [setPc_cbs]
    rcases hch with e | ⟨k, hka, hr⟩
    · rw [e]; exact hi.noReader hn
    · rw [hn a k hka] at hr; cases hr

theorem rinv_step {K : Nat → Option Kind} {s s' : State} {x : Action} (h1 : OneReader (updK K x))
    (hk : KInv K s) (hi : RInv K s) (h : step s x = some s') : RInv (updK K x) s' := by
  cases x with
  | spawn a k => exact rinv_spawn h1 hk hi h
  | act a f => exact rinv_act h1 hk hi h

end Conc
