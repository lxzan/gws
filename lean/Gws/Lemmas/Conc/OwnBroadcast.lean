import Gws.Lemmas.Conc.Own
/-! The broadcaster's reference counter: `doClose` runs exactly once, when `Close` has been called and
the last queued send has run; the shared frames are used only before that. -/
namespace Own
namespace BC

structure Inv (s : BC) : Prop where
  counter : s.state = (if s.closed then 0 else maxInt32) + s.pending.length
  rel : s.released = if s.closed = true ∧ s.pending = [] then 1 else 0

/-- what the API precondition says about the remaining actions in state `s` -/
def Good (s : BC) (acts : List BAct) : Prop :=
  if s.closed then ∀ a ∈ acts, a ≠ .close ∧ a.isBcast = false else ApiOk acts

theorem inv_init (p : Pid) (c : CBuf) (f0 f1 : Buf) : Inv (init p c f0 f1) := by
  constructor <;> simp [init]

theorem step_sendDone {s s' : BC} {i : Nat} (hs : s.step (.sendDone i) = some s') :
    ∃ z, (i, z) ∈ s.pending ∧ s' = maybeClose { s with
      trace := s.trace ++ s.sendEvs z, state := s.state - 1, pending := s.pending.erase (i, z) } := by
  simp only [step] at hs
  split at hs
  · cases hs
  · rename_i j z hf
    have h1 : j = i := by simpa using List.find?_some hf
    cases hs
    exact ⟨z, h1 ▸ List.mem_of_find?_eq_some hf, rfl⟩

theorem step_consts {s s' : BC} {a : BAct} (hs : s.step a = some s') :
    s'.p = s.p ∧ s'.c = s.c ∧ s'.f0 = s.f0 ∧ s'.f1 = s.f1 ∧ s'.closed = (s.closed || a == .close) := by
  cases a with
  | bcast i z => cases hs; simp
  | sendDone i =>
    obtain ⟨z, -, rfl⟩ := step_sendDone hs
    unfold maybeClose; split <;> simp
  | close =>
    cases hs
    unfold maybeClose; split <;> simp

theorem Good.not_closed {s : BC} {a : BAct} {as : List BAct} (hg : Good s (a :: as))
    (ha : a = .close ∨ a.isBcast = true) : s.closed = false := by
  cases hc : s.closed with
  | false => rfl
  | true =>
    have := hg
    simp only [Good, hc, if_true] at this
    have := this a List.mem_cons_self
    rcases ha with rfl | ha <;> simp_all

theorem Good.tail {s t : BC} {a : BAct} {as : List BAct} (hg : Good s (a :: as))
    (ht : t.closed = (s.closed || a == .close)) : Good t as := by
  unfold Good at hg ⊢
  cases hc : s.closed with
  | true =>
    simp only [hc, if_true, Bool.true_or] at hg ht
    simp only [ht, if_true]
    exact fun a' ha' => hg a' (List.mem_cons_of_mem _ ha')
  | false => cases a <;> simpa [hc, ht, ApiOk] using hg

theorem not_released {s s' : BC} {a : BAct} {as : List BAct} (hi : Inv s) (hg : Good s (a :: as))
    (hs : s.step a = some s') : s.released = 0 := by
  rw [hi.rel, if_neg]
  rintro ⟨hc, hp⟩
  cases a with
  | bcast i z => simp [hg.not_closed (Or.inr rfl)] at hc
  | sendDone i =>
    obtain ⟨z, hmem, -⟩ := step_sendDone hs
    rw [hp] at hmem; cases hmem
  | close => simp [hg.not_closed (Or.inl rfl)] at hc

theorem inv_maybeClose {t : BC} (hc : t.state = (if t.closed then 0 else maxInt32) + t.pending.length)
    (hr : t.released = 0) : Inv (maybeClose t) := by
  have hz : t.state = 0 ↔ t.closed = true ∧ t.pending = [] := by
    rw [hc]; cases t.closed <;> simp [maxInt32, ← List.length_eq_zero_iff] <;> omega
  unfold maybeClose
  split
  · rename_i h0; exact ⟨hc, by simp [hr, hz.mp h0]⟩
  · rename_i h0; exact ⟨hc, by simp [hr, mt hz.mpr h0]⟩

theorem inv_step (s s' : BC) (a : BAct) (as : List BAct) (hi : Inv s) (hg : Good s (a :: as))
    (hs : s.step a = some s') : Inv s' := by
  have hr0 := not_released hi hg hs
  cases a with
  | bcast i z =>
    have hnc := hg.not_closed (Or.inr rfl)
    cases hs
    exact ⟨by simp [hnc, hi.counter]; omega, by simpa [hnc] using hi.rel⟩
  | sendDone i =>
    obtain ⟨z, hmem, rfl⟩ := step_sendDone hs
    refine inv_maybeClose ?_ hr0
    have := List.length_pos_of_mem hmem
    simp only [List.length_erase_of_mem hmem, hi.counter]; omega
  | close =>
    have hnc := hg.not_closed (Or.inl rfl)
    cases hs
    refine inv_maybeClose ?_ hr0
    simp [hi.counter, hnc]; omega

theorem inv_run (s s' : BC) (acts : List BAct) (hi : Inv s) (hg : Good s acts) (hr : s.run acts = some s') :
    Inv s' :=
  (run_invariant (run := BC.run) (P := fun as s => Inv s ∧ Good s as) (fun _ => rfl) (fun _ _ _ => rfl)
    (fun s a as s' hi hs => ⟨inv_step s s' a as hi.1 hi.2 hs, hi.2.tail (step_consts hs).2.2.2.2⟩)
    acts s s' ⟨hi, hg⟩ hr).1

theorem consts_run {s s' : BC} {acts : List BAct} (hs : BC.run s acts = some s') :
    s'.p = s.p ∧ s'.c = s.c ∧ s'.f0 = s.f0 ∧ s'.f1 = s.f1 :=
  run_invariant (run := BC.run) (P := fun _ t => t.p = s.p ∧ t.c = s.c ∧ t.f0 = s.f0 ∧ t.f1 = s.f1) (fun _ => rfl)
    (fun _ _ _ => rfl)
    (fun _ _ _ _ hi hs => by
      obtain ⟨a1, a2, a3, a4, _⟩ := step_consts hs
      exact ⟨a1.trans hi.1, a2.trans hi.2.1, a3.trans hi.2.2.1, a4.trans hi.2.2.2⟩)
    acts s s' ⟨rfl, rfl, rfl, rfl⟩ hs

/-- the heap after the broadcaster's events so far: until `doClose` the payload is lent to the broadcaster
and it owns the frames that have been generated; afterwards everything is back -/
structure HInv (s : BC) (h : Heap) : Prop where
  lent : h.lent s.c = if s.released = 0 then some s.p else none
  own : ∀ z, (h.cell (s.frameOf z)).own =
    if (if z then s.gen1 else s.gen0) = true ∧ s.released = 0 then .lib s.p else .pool
  pend : ∀ x ∈ s.pending, (if x.2 then s.gen1 else s.gen0) = true

theorem frameOf_inj {s : BC} (hne : s.f0 ≠ s.f1) {z z' : Bool} : s.frameOf z' = s.frameOf z ↔ z' = z := by
  cases z <;> cases z' <;> simp [frameOf, hne, Ne.symm hne]

theorem genEvs_run {s : BC} {h : Heap} (hh : HInv s h) (hr0 : s.released = 0) (z : Bool) :
    ∃ h', Own.run h (s.genEvs z) = some h' ∧ h'.lent = h.lent ∧
      (h'.cell (s.frameOf z)).own = .lib s.p ∧ ∀ x, x ≠ s.frameOf z → h'.cell x = h.cell x := by
  have ho := hh.own z
  cases hgz : (if z then s.gen1 else s.gen0) with
  | true => exact ⟨h, by simp [genEvs, hgz], rfl, by simpa [hgz, hr0] using ho, fun _ _ => rfl⟩
  | false =>
    have hf : (h.cell (s.frameOf z)).own = .pool := by simpa [hgz] using ho
    refine ⟨{ h with cell := upd h.cell (s.frameOf z) ⟨.lib s.p, (h.cell (s.frameOf z)).held⟩ }, ?_, rfl, by simp,
      fun x hx => by simp [upd, hx]⟩
    rw [genEvs, hgz, if_neg Bool.false_ne_true, Own.run_cons, step_libReadCaller (by simpa [hr0] using hh.lent),
      Option.bind_some]
    simp [Own.run_cons, Own.step, BOp.apply, Cell.usable, hf]

theorem send_run (h : Heap) (p : Pid) (c : CBuf) (f : Buf) (z : Bool) (hl : h.lent c = some p)
    (hf : (h.cell f).own = .lib p) : Own.run h (.libRead f p :: optl z [.libReadCaller c p]) = some h := by
  have e1 : Own.step h (.libRead f p) = some h := by
    simp [Own.step, BOp.apply, Cell.usable, hf]
  cases z <;> simp [Own.run_cons, step_libReadCaller hl, e1]

theorem close_run (h : Heap) (p : Pid) (c : CBuf) (f0 f1 : Buf) (g0 g1 : Bool) (hne : f0 ≠ f1)
    (hl : h.lent c = some p) (h0 : (h.cell f0).own = if g0 then .lib p else .pool)
    (h1 : (h.cell f1).own = if g1 then .lib p else .pool) :
    ∃ h', Own.run h (optl g0 [.put f0 p] ++ optl g1 [.put f1 p] ++ [.callerReturn c p]) = some h' ∧
      h'.lent c = none ∧ (h'.cell f0).own = .pool ∧ (h'.cell f1).own = .pool := by
  cases g0 <;> cases g1 <;>
    simp_all [Own.run_cons, Own.step, COp.apply, BOp.apply, Cell.usable, upd, Ne.symm hne]

theorem hinv_maybeClose {h0 h : Heap} {t : BC} (hne : t.f0 ≠ t.f1) (hr0 : t.released = 0)
    (hr : Own.run h0 t.trace = some h) (hh : HInv t h) :
    ∃ h', Own.run h0 (maybeClose t).trace = some h' ∧ HInv (maybeClose t) h' := by
  unfold maybeClose
  split
  · obtain ⟨h', c1, c2, c3, c4⟩ := close_run h t.p t.c t.f0 t.f1 t.gen0 t.gen1 hne (by simpa [hr0] using hh.lent)
      (by simpa [hr0, frameOf] using hh.own false) (by simpa [hr0, frameOf] using hh.own true)
    refine ⟨h', by show Own.run h0 (t.trace ++ t.doCloseEvs) = _; rw [run_append, hr]; exact c1,
      ⟨by simp [hr0, c2], fun z => ?_, hh.pend⟩⟩
    cases z <;> simp [hr0, frameOf, c3, c4]
  · exact ⟨h, hr, hh⟩

theorem gen_or (s : BC) (z z' : Bool) :
    (if z' then s.gen1 || z else s.gen0 || !z) = ((if z' then s.gen1 else s.gen0) || z' == z) := by
  cases z <;> cases z' <;> simp

theorem hinv_step (h0 : Heap) (s s' : BC) (a : BAct) (h : Heap) (hne : s.f0 ≠ s.f1) (hr0 : s.released = 0)
    (hr : Own.run h0 s.trace = some h) (hh : HInv s h) (hs : s.step a = some s') :
    ∃ h', Own.run h0 s'.trace = some h' ∧ HInv s' h' := by
  cases a with
  | bcast i z =>
    cases hs
    obtain ⟨h', e1, e2, e3, e4⟩ := genEvs_run hh hr0 z
    refine ⟨h', by rw [run_append, hr]; exact e1, ⟨by rw [e2]; exact hh.lent, fun z' => ?_, fun x hx => ?_⟩⟩
    · by_cases hz : z' = z
      · subst hz; simpa [gen_or, hr0, frameOf] using e3
      · have := hh.own z'
        rw [← e4 _ (mt (frameOf_inj hne).mp hz)] at this
        simpa [gen_or, hz, frameOf] using this
    · simp only [gen_or]
      rcases List.mem_cons.mp hx with rfl | hx
      · simp
      · simp [hh.pend x hx]
  | sendDone i =>
    obtain ⟨z, hmem, rfl⟩ := step_sendDone hs
    -- the frame was generated when the send was queued, and is still the broadcaster's
    have hfz : (h.cell (s.frameOf z)).own = .lib s.p := by
      have := hh.own z; have := hh.pend (i, z) hmem; simp_all
    have e1 : Own.run h0 (s.trace ++ s.sendEvs z) = some h := by
      rw [run_append, hr]; exact send_run h s.p s.c _ z (by simpa [hr0] using hh.lent) hfz
    exact hinv_maybeClose hne hr0 e1 ⟨hh.lent, hh.own, fun x hx => hh.pend x (List.mem_of_mem_erase hx)⟩
  | close =>
    cases hs
    exact hinv_maybeClose hne hr0 hr ⟨hh.lent, hh.own, hh.pend⟩

theorem trace_run (p : Pid) (c : CBuf) (f0 f1 : Buf) (acts : List BAct) (s : BC) (h0 : Heap)
    (hne : f0 ≠ f1) (hc : h0.lent c = none) (h0f : (h0.cell f0).own = .pool) (h1f : (h0.cell f1).own = .pool)
    (hapi : ApiOk acts) (hr : BC.run (init p c f0 f1) acts = some s) :
    ∃ h, Own.run h0 s.trace = some h ∧ HInv s h := by
  have e1 : Own.run h0 (init p c f0 f1).trace = some { h0 with lent := upd h0.lent c (some p) } := by
    simp [init, Own.run_cons, Own.step, COp.apply, hc]
  have e2 : HInv (init p c f0 f1) { h0 with lent := upd h0.lent c (some p) } :=
    ⟨by simp [init], fun z => by cases z <;> simp [init, frameOf, h0f, h1f], by simp [init]⟩
  -- `Inv` and `Good` are carried along: each step needs `not_released` of the state it starts from
  exact (run_invariant (run := BC.run)
    (P := fun as s => s.f0 ≠ s.f1 ∧ Inv s ∧ Good s as ∧ ∃ h, Own.run h0 s.trace = some h ∧ HInv s h)
    (fun _ => rfl) (fun _ _ _ => rfl)
    (fun s a as s' ⟨hne, hi, hg, h, hr, hh⟩ hs => by
      obtain ⟨_, _, e0, e1, ec⟩ := step_consts hs
      exact ⟨by rw [e0, e1]; exact hne, inv_step s s' a as hi hg hs, hg.tail ec, hinv_step h0 s s' a h hne (not_released hi hg hs) hr hh hs⟩)
    acts _ s ⟨hne, inv_init p c f0 f1, by simpa [Good, init] using hapi, _, e1, e2⟩ hr).2.2.2

end BC
end Own
