import Gws.Lemmas.Conc.ConnKinds
/-!
# Data frames on the wire (`DInv`, I6 of the design)

For every actor `a` the wire is `pre ++ msgFrames a N i ++ post`: its data frames are the first `i`
frames of its message (`N` frames; FIN exactly on frame `N-1`), adjacent and in order, and neither
`pre` nor `post` contains a data frame of `a`.  `Prog` relates the progress `i` to the program
counter (e.g. `done ok ↔ i = N`).
-/

namespace Conc

def isDataOf (a : Nat) : Frame → Bool
  | .data o _ _ => o == a
  | .close _ => false

def NoData (a : Nat) (w : List Frame) : Prop := ∀ f ∈ w, isDataOf a f = false

/-- the first `i` frames of the `N`-frame message of actor `a`: indices `0 … i-1`, FIN on index `N-1` -/
def msgFrames (a N i : Nat) : List Frame := (List.range i).map (fun j => Frame.data a j (j + 1 == N))

theorem msgFrames_zero (a N : Nat) : msgFrames a N 0 = [] := rfl

theorem msgFrames_succ (a N i : Nat) :
    msgFrames a N (i + 1) = msgFrames a N i ++ [Frame.data a i (i + 1 == N)] := by
  simp [msgFrames, List.range_succ]

theorem length_msgFrames (a N i : Nat) : (msgFrames a N i).length = i := by simp [msgFrames]

theorem msgFrames_inj {a N i j : Nat} : msgFrames a N i = msgFrames a N j ↔ i = j :=
  ⟨fun e => by simpa [length_msgFrames] using congrArg List.length e, fun e => by rw [e]⟩

theorem mem_msgFrames {a N i : Nat} {f : Frame} :
    f ∈ msgFrames a N i ↔ ∃ j, j < i ∧ f = Frame.data a j (j + 1 == N) := by
  simp only [msgFrames, List.mem_map, List.mem_range, eq_comm]

theorem noData_nil (a : Nat) : NoData a [] := by simp [NoData]

theorem noData_append {a : Nat} {u v : List Frame} : NoData a (u ++ v) ↔ NoData a u ∧ NoData a v :=
  List.forall_mem_append

theorem noData_singleton {a : Nat} {f : Frame} : NoData a [f] ↔ isDataOf a f = false := by
  simp [NoData]

/-- does the close sequence report a content rejection -/
def Cont.isRej : Cont → Bool
  | .ret .rejected => true
  | _ => false

/-- progress `i` (number of frames written) allowed at program counter `p` for an `N`-frame message;
`post` = what follows the actor's frames on the wire.  `post = []` at `fCheck` is contiguity: while the file
writer holds `c.mu` nobody else appends.  `i + 1 ≤ N ∨ i = 0` is "not the complete message"; the second
disjunct is for `N = 0`, actors that send nothing. -/
def Prog (N : Nat) (p : Pc) (i : Nat) (post : List Frame) : Prop :=
  i ≤ N ∧ match p with
  | .idle | .wLock _ | .wWrite | .bStart | .bLock | .bWrite | .rOpen _ | .rLoop _ | .rOnClose =>
    i + 1 ≤ N ∨ i = 0
  | .fLock _ => i = 0
  | .fCheck j _ => i = j ∧ post = []
  | .cCas c | .kLock c | .kWrite c | .cTclose c => if c.isRej then i = 0 else (i + 1 ≤ N ∨ i = 0)
  | .done r => match r with
    | .ok => i = N
    | .rejected => i = 0
    | _ => i + 1 ≤ N ∨ i = 0

/-- the wire, seen from actor `a` -/
def DClause (N : Nat) (p : Pc) (w : List Frame) (a : Nat) : Prop :=
  ∃ i pre post, w = pre ++ msgFrames a N i ++ post ∧ NoData a pre ∧ NoData a post ∧ Prog N p i post

def framesN (K : Nat → Option Kind) (a : Nat) : Nat :=
  match K a with
  | some k => k.frames
  | none => 0

def DInv (K : Nat → Option Kind) (s : State) : Prop :=
  ∀ a, DClause (framesN K a) (s.pc a) s.wire a

/-- a frame that is not a data frame of `x` goes to `post`; not at `fCheck`, where `post = []` -/
theorem dclause_push_other {N : Nat} {p : Pc} {w : List Frame} {x : Nat} {g : Frame}
    (h : DClause N p w x) (hg : isDataOf x g = false) (hp : ∀ j n, p ≠ .fCheck j n) :
    DClause N p (w ++ [g]) x := by
  obtain ⟨i, pre, post, hw, h1, h2, h3⟩ := h
  refine ⟨i, pre, post ++ [g], by simp [hw], h1, noData_append.2 ⟨h2, noData_singleton.2 hg⟩, ?_⟩
  cases p <;> simp_all [Prog]

theorem dclause_pc {N : Nat} {p p' : Pc} {w : List Frame} {x : Nat}
    (h : DClause N p w x) (hp : ∀ i post, Prog N p i post → Prog N p' i post) : DClause N p' w x := by
  obtain ⟨i, pre, post, hw, h1, h2, h3⟩ := h
  exact ⟨i, pre, post, hw, h1, h2, hp i post h3⟩

theorem noData_msgFrames_zero {a N : Nat} {pre post : List Frame} (h1 : NoData a pre) (h2 : NoData a post) :
    NoData a (pre ++ msgFrames a N 0 ++ post) := by
  simp only [msgFrames_zero, List.append_nil]
  exact noData_append.2 ⟨h1, h2⟩

theorem dclause_push_own {N j : Nat} {p p' : Pc} {w : List Frame} {a : Nat}
    (h : DClause N p w a) (hp : ∀ i post, Prog N p i post → i = j ∧ (post = [] ∨ i = 0))
    (hp' : Prog N p' (j + 1) []) : DClause N p' (w ++ [Frame.data a j (j + 1 == N)]) a := by
  obtain ⟨i, pre, post, hw, h1, h2, h3⟩ := h
  obtain ⟨rfl, h4⟩ := hp i post h3
  -- at `fCheck` the new frame joins the segment that ends the wire; with `i = 0` the decomposition is chosen anew
  rcases h4 with rfl | rfl
  · refine ⟨i + 1, pre, [], ?_, h1, noData_nil a, hp'⟩
    rw [hw, msgFrames_succ]; simp
  · refine ⟨1, w, [], ?_, ?_, noData_nil a, hp'⟩
    · simp [msgFrames]
    · rw [hw]; exact noData_msgFrames_zero h1 h2

/-- `fLock`: the empty segment is moved to the end of the wire (`pre := w`), as `fCheck 0` demands -/
theorem dclause_restart {N : Nat} {p p' : Pc} {w : List Frame} {a : Nat}
    (h : DClause N p w a) (hp : ∀ i post, Prog N p i post → i = 0) (hp' : Prog N p' 0 []) :
    DClause N p' w a := by
  obtain ⟨i, pre, post, hw, h1, h2, h3⟩ := h
  obtain rfl := hp i post h3
  refine ⟨0, w, [], by simp [msgFrames], ?_, noData_nil a, hp'⟩
  rw [hw]; exact noData_msgFrames_zero h1 h2

theorem dinv_init : DInv (kindMap []) {} := by
  intro a
  exact ⟨0, [], [], by simp [msgFrames], noData_nil a, noData_nil a, by simp [Prog, framesN]⟩

theorem prog_startPc (k : Kind) (post : List Frame) : Prog k.frames (startPc k) 0 post := by
  cases k <;> simp [Prog, startPc, Kind.frames, Facts.bcClosedCheckUnderLock, Cont.isRej]

theorem dinv_spawn {K : Nat → Option Kind} {s s' : State} {a : Nat} {k : Kind} (hk : KInv K s)
    (hi : DInv K s) (h : step s (.spawn a k) = some s') : DInv (updK K (.spawn a k)) s' := by
  obtain ⟨rfl, hidle⟩ := spawn_cases h
  intro b
  simp only [pc_setPc, setPc_wire, framesN, updK]
  by_cases hb : b = a
  · subst hb
    simp only [if_true]
    obtain ⟨i, pre, post, hw, h1, h2, h3⟩ := hi b
    have hn : framesN K b = 0 := by simp [framesN, hk.of_idle hidle]
    rw [hn] at hw h3
    have hi0 : i = 0 := by have := h3.1; omega
    subst hi0
    exact ⟨0, pre, post, by simpa [msgFrames] using hw, h1, h2, prog_startPc k post⟩
  · simp only [hb, if_false]
    exact hi b

theorem isDataOf_ne {x a : Nat} (h : x ≠ a) (j : Nat) (l : Bool) : isDataOf x (.data a j l) = false := by
  simp [isDataOf]; exact fun e => h e.symm

theorem Trans.dclause_own {s t : State} {x : Nat} {f : Bool} {q p' : Pc} {k : Kind}
    (ht : Trans s x f q t p') (hty : Typed k q) (hle : ∀ i n, q = .fCheck i n → i ≤ n)
    (hix : DClause k.frames q s.wire x) : DClause k.frames p' t.wire x := by
  cases ht with
  | wLockRej h1 h2 =>
    refine dclause_pc hix ?_
    intro i post hpr
    simp_all [Prog, Cont.isRej, Typed, Kind.frames]
  | wWriteOk h1 h2 | bWriteOk h1 h2 =>
    have hk1 : k.frames = 1 := by simp_all [Typed, Kind.frames]
    have := dclause_push_own (j := 0) (p' := .done .ok) hix
      (by intro i post hpr; simp_all [Prog]) (by simp [Prog, hk1])
    simpa [hk1] using this
  | fLock n h1 =>
    exact dclause_restart hix (by intro i post hpr; simp_all [Prog]) (by simp [Prog])
  | fClosed i n h1 | fFail i n b h1 h2 =>
    have hle' := hle _ _ rfl
    refine dclause_pc hix ?_
    intro i post hpr
    simp_all [Prog, Cont.isRej, Typed, Kind.frames]
    omega
  | fLast n h1 h2 h3 =>
    have hk1 : k.frames = n + 1 := by simp_all [Typed, Kind.frames]
    have := dclause_push_own (j := n) (p' := .done .ok) hix
      (by intro i post hpr; simp_all [Prog]) (by simp [Prog, hk1])
    simpa [hk1] using this
  | fNext i n hne h1 h2 h3 =>
    have hle' := hle _ _ rfl
    have hk1 : k.frames = n + 1 := by simp_all [Typed, Kind.frames]
    have := dclause_push_own (j := i) (p' := .fCheck (i + 1) n) hix
      (by intro i post hpr; simp_all [Prog]) (by simp [Prog, hk1]; omega)
    have hb : (i == n) = false := by simp [hne]
    simpa [hk1, hb] using this
  | casLoseRet r h1 h2 =>
    refine dclause_pc hix ?_
    intro i post hpr
    cases r <;> simp_all [Prog, Cont.isRej]
  | kWriteOk k' h1 h2 =>
    exact dclause_pc (dclause_push_other hix rfl (by simp)) (by intro i post hpr; simp_all [Prog])
  | tcloseRet r =>
    refine dclause_pc hix ?_
    intro i post hpr
    cases r <;> simp_all [Prog, Cont.isRej, Typed, ContTyped, Kind.frames]
  | rOnClose =>
    refine dclause_pc hix ?_
    intro i post hpr
    cases k <;> simp_all [Prog, Typed, Kind.isReader, Kind.frames]
  | _ =>
    refine dclause_pc hix ?_
    intro i post hpr
    simp_all [Prog, Cont.isRej]

theorem dinv_act {K : Nat → Option Kind} {s s' : State} {a : Nat} {f : Bool} (hc : CInv s) (hk : KInv K s)
    (hi : DInv K s) (h : step s (.act a f) = some s') : DInv K s' := by
  obtain ⟨t, p', rfl, hp, ht⟩ := act_cases h
  intro x
  rw [pc_after hp, setPc_wire]
  by_cases hxa : x = a
  · subst hxa
    rw [if_pos rfl]
    obtain ⟨k, hkx, hty⟩ := hk.kind_of_ne_idle ht.ne_idle
    have := hi x
    simp only [framesN, hkx] at this ⊢
    exact ht.dclause_own hty (hc.fcheck_le x) this
  · -- the wire grows only by a frame of the lock holder `a`, so `x` is not inside a `WriteFile`
    rw [if_neg hxa]
    rcases ht.wire with e | ⟨g, e, ho, hq, -⟩ <;> rw [e]
    · exact hi x
    · refine dclause_push_other (hi x) ?_ (fun j n e' => hxa (hc.mutex x a (by rw [e']; rfl) hq))
      cases g with
      | data o j l => cases ho; exact isDataOf_ne hxa j l
      | close o => rfl

theorem dinv_step {K : Nat → Option Kind} {s s' : State} {x : Action} (hc : CInv s) (hk : KInv K s)
    (hi : DInv K s) (h : step s x = some s') : DInv (updK K x) s' := by
  cases x with
  | spawn a k => exact dinv_spawn hk hi h
  | act a f => exact dinv_act hc hk hi h

end Conc
