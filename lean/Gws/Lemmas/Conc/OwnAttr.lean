import Lean.Meta.Tactic.Simp.RegisterCommand

/-- projection of an event list to one location: `bufOps` / `callerOps` of `::`, `++`, `optl`, `if` -/
register_simp_attr own_proj

/-- evaluation of a projected operation list on a cell whose owner is known -/
register_simp_attr own_run
