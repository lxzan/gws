import Gws.Basic
import Gws.Model.Conc.Map
/-!
Lemmas for C19 (session_storage.go).  Read through `load`, a shard is a plain map; replacing the shard of one key keeps
the invariant and updates the abstract map at that key (`setShard_ok`).  A `Len` call is followed through
`State.lenGoal`, a `Range` call through `RInv` and the callback protocol `Answered`, one locked iteration being
`visit_shard`, which `SMap.step_ok` uses as well.
-/

namespace CMap

namespace Shard

theorem load_store (m : Shard) (k v k' : Nat) :
    (m.store k v).load k' = if k' = k then some v else m.load k' := by
  fun_induction store m k v <;> grind [load]

theorem load_delete (m : Shard) (k k' : Nat) :
    (m.delete k).load k' = if k' = k then none else m.load k' := by
  induction m with
  | nil => simp [delete, load]
  | cons e m ih => grind [load, delete]

theorem mem_keys_iff (m : Shard) (k : Nat) : k ∈ m.keys ↔ m.load k ≠ none := by
  fun_induction load m k <;> grind [keys]

theorem keys_store (m : Shard) (k v : Nat) :
    (m.store k v).keys = if m.load k = none then m.keys ++ [k] else m.keys := by
  fun_induction store m k v <;> grind [load, keys]

theorem keys_delete (m : Shard) (k : Nat) : (m.delete k).keys = m.keys.filter (· != k) := by
  simp [delete, keys, List.filter_map, Function.comp_def]

theorem nodup_store (m : Shard) (k v : Nat) (h : m.keys.Nodup) : (m.store k v).keys.Nodup := by
  rw [keys_store]
  split
  · rename_i hn
    refine List.nodup_append.2 ⟨h, by simp, fun a ha b hb hab => ?_⟩
    rw [hab, List.mem_singleton.1 hb] at ha
    exact (mem_keys_iff m k).1 ha hn
  · exact h

theorem nodup_delete (m : Shard) (k : Nat) (h : m.keys.Nodup) : (m.delete k).keys.Nodup := by
  rw [keys_delete]; exact h.filter _

theorem size_eq (m : Shard) : m.size = m.keys.length := (List.length_map _).symm

theorem size_store (m : Shard) (k v : Nat) :
    (m.store k v).size = m.size + (if m.load k = none then 1 else 0) := by
  rw [size_eq, size_eq, keys_store]
  split <;> simp

theorem size_delete (m : Shard) (k : Nat) (h : m.keys.Nodup) :
    (m.delete k).size + (if m.load k = none then 0 else 1) = m.size := by
  rw [size_eq, size_eq, keys_delete, ← h.erase_eq_filter]
  by_cases hk : k ∈ m.keys
  · rw [List.length_erase_of_mem hk, if_neg ((mem_keys_iff m k).1 hk)]
    have := List.length_pos_of_mem hk
    omega
  · rw [List.erase_of_not_mem hk, if_pos (Classical.not_not.1 (mt (mem_keys_iff m k).2 hk))]
    rfl

theorem mem_iff_load (m : Shard) (k v : Nat) (h : m.keys.Nodup) : (k, v) ∈ m ↔ m.load k = some v := by
  induction m with
  | nil => simp [load]
  | cons e m ih =>
    obtain ⟨k₀, v₀⟩ := e
    obtain ⟨hk, hm⟩ := List.nodup_cons.1 h
    have hk' : ∀ v, (k₀, v) ∉ m := fun v hv => hk (List.mem_map_of_mem (f := (·.1)) hv)
    by_cases he : k₀ = k
    · subst he; simp [load, hk', eq_comm]
    · simp [load, he, Ne.symm he, ih hm]

end Shard

theorem toBinaryNumber.loop_spec (n fuel x : Nat) (hx : ∃ j, x = 2 ^ j) (hfuel : n ≤ x * 2 ^ fuel)
    (hlt : 1 ≤ n → x < 2 * n) :
    (∃ m, loop n fuel x = 2 ^ m) ∧ n ≤ loop n fuel x ∧ (1 ≤ n → loop n fuel x < 2 * n) := by
  fun_induction loop n fuel x with
  | case1 x => exact ⟨hx, by simpa using hfuel, hlt⟩
  | case2 fuel x h ih =>
    obtain ⟨j, rfl⟩ := hx
    exact ih ⟨j + 1, rfl⟩ (by rw [Nat.mul_assoc, ← Nat.pow_succ']; exact hfuel) (fun _ => by omega)
  | case3 fuel x h => exact ⟨hx, by omega, hlt⟩

theorem toBinaryNumber_spec (n : Nat) :
    (∃ m, toBinaryNumber n = 2 ^ m) ∧ n ≤ toBinaryNumber n ∧ (1 ≤ n → toBinaryNumber n < 2 * n) :=
  toBinaryNumber.loop_spec n n 1 ⟨0, rfl⟩ (by have := @Nat.lt_two_pow_self n; omega) (fun _ => by omega)

theorem Cfg.num_pow2 (c : Cfg) : ∃ m, c.num = 2 ^ m := (toBinaryNumber_spec _).1

theorem Cfg.num_pos (c : Cfg) : 0 < c.num := by
  obtain ⟨m, h⟩ := c.num_pow2
  rw [h]; exact Nat.two_pow_pos m

theorem Cfg.idx_eq_mod (c : Cfg) (k : Nat) : c.idx k = c.hash k % c.num := by
  obtain ⟨m, h⟩ := c.num_pow2
  unfold Cfg.idx
  rw [h, Nat.and_two_pow_sub_one_eq_mod]

theorem Cfg.idx_lt (c : Cfg) (k : Nat) : c.idx k < c.num := by
  rw [c.idx_eq_mod]; exact Nat.mod_lt _ c.num_pos

namespace State

theorem shard_setShard (s : State) (i j : Nat) (m : Shard) (h : i < s.shards.length) :
    (s.setShard i m).shard j = if j = i then m else s.shard j := by
  simp only [shard, setShard, List.getD_eq_getElem?_getD, List.getElem?_set, h, eq_comm (a := j)]
  split <;> rfl

theorem shard_of_ge (s : State) (i : Nat) (h : s.shards.length ≤ i) : s.shard i = [] := by
  simp [shard, List.getD_eq_getElem?_getD, h]

theorem restSize_zero (s : State) : s.restSize 0 = s.size := rfl

theorem restSize_of_ge (s : State) (n : Nat) (h : s.shards.length ≤ n) : s.restSize n = 0 := by
  simp [restSize, List.drop_eq_nil_of_le h]

theorem restSize_succ (s : State) (n : Nat) (h : n < s.shards.length) :
    s.restSize n = (s.shard n).size + s.restSize (n + 1) := by
  unfold restSize shard
  rw [List.drop_eq_getElem_cons h, List.getD_eq_getElem?_getD, List.getElem?_eq_getElem h]
  rfl

end State

theorem State.restSize_setShard (s : State) (n i : Nat) (m : Shard) (h : i < s.shards.length) :
    (s.setShard i m).restSize n + (if n ≤ i then (s.shard i).size else 0) =
      s.restSize n + (if n ≤ i then m.size else 0) := by
  simp only [shard, restSize, setShard]
  generalize s.shards = l at h
  induction l generalizing n i with
  | nil => cases h
  | cons x l ih =>
    cases i with
    | zero =>
      cases n with
      | zero => simp only [List.getD_cons_zero, List.set_cons_zero, List.drop_zero, List.map_cons, List.sum_cons, Nat.le_refl, if_true]; omega
      | succ n => simp
    | succ i =>
      cases n with
      | zero =>
        have := ih 0 i (Nat.lt_of_succ_lt_succ h)
        simp only [List.set_cons_succ, List.drop_zero, List.map_cons, List.sum_cons, List.getD_cons_succ, Nat.zero_le, if_true] at this ⊢; omega
      | succ n => simpa using ih n i (Nat.lt_of_succ_lt_succ h)

/-- the form `restSize_step` needs: `r` entries removed from shard `i`, `a` added -/
theorem State.restSize_setShard_le (s : State) (n i : Nat) (m : Shard) (h : i < s.shards.length) (a r : Nat)
    (hm : m.size + r = (s.shard i).size + a) :
    s.restSize n ≤ (s.setShard i m).restSize n + r ∧ (s.setShard i m).restSize n ≤ s.restSize n + a := by
  have := s.restSize_setShard n i m h
  split at this <;> omega

section
variable (c : Cfg)

theorem WF.idx_lt {c : Cfg} {s : State} (h : WF c s) (k : Nat) : c.idx k < s.shards.length :=
  h.len ▸ c.idx_lt k

theorem load_eq_abs (s : State) (k : Nat) : s.load c k = abs c s k := rfl

theorem setShard_ok (s : State) (k : Nat) (m : Shard) (x : Option Nat) (h : WF c s) (hnd : m.keys.Nodup)
    (hm : ∀ k', m.load k' = if k' = k then x else (s.shard (c.idx k)).load k') :
    WF c (s.setShard (c.idx k) m) ∧ abs c (s.setShard (c.idx k) m) = fun k' => if k' = k then x else abs c s k' := by
  have hset := fun j => State.shard_setShard s (c.idx k) j m (h.idx_lt k)
  refine ⟨⟨by simp [State.setShard, h.len], fun j => ?_, fun j k' hk' => ?_⟩, funext fun k' => ?_⟩
  · rw [hset]; split
    · exact hnd
    · exact h.nodup j
  · rw [hset] at hk'; split at hk'
    · rename_i hj
      have hl := (Shard.mem_keys_iff m k').1 hk'
      rw [hm] at hl; split at hl
      · rw [hj, ‹k' = k›]
      · exact h.home j k' (hj ▸ (Shard.mem_keys_iff _ k').2 hl)
    · exact h.home j k' hk'
  · unfold abs
    rw [hset]; split
    · rename_i hx; rw [hm, hx]
    · rename_i hx; rw [if_neg (fun hk => hx (by rw [hk]))]

theorem store_ok (s : State) (k v : Nat) (h : WF c s) :
    WF c (s.store c k v) ∧ abs c (s.store c k v) = (abs c s).store k v :=
  setShard_ok c s k _ (some v) h (Shard.nodup_store _ _ _ (h.nodup _)) (Shard.load_store _ k v)

theorem delete_ok (s : State) (k : Nat) (h : WF c s) :
    WF c (s.delete c k) ∧ abs c (s.delete c k) = (abs c s).delete k :=
  setShard_ok c s k _ none h (Shard.nodup_delete _ _ (h.nodup _)) (Shard.load_delete _ k)

theorem wf_init : WF c (State.init c) := by
  have hs : ∀ i, (State.init c).shard i = [] := by
    intro i
    simp only [State.shard, State.init, List.getD_eq_getElem?_getD, List.getElem?_replicate]
    split <;> rfl
  exact ⟨List.length_replicate, fun i => by rw [hs]; exact List.nodup_nil, fun i k hk => by rw [hs] at hk; cases hk⟩

theorem step_inv {s s' : State} {a : Act} (hst : step c s a = some s') :
    match a with
    | .load _ => s' = s
    | .store k v => s' = s.store c k v
    | .delete k => s' = s.delete c k
    | .lenStart id => s.lens id = none ∧ s' = { s with lens := upd s.lens id { next := 0, sum := 0 } }
    | .lenStep id => ∃ lc, s.lens id = some lc ∧ lc.next < c.num ∧
        s' = { s with lens := upd s.lens id { next := lc.next + 1, sum := lc.sum + (s.shard lc.next).size } }
    | .rangeStart id cb => s.ranges id = none ∧
        s' = { s with ranges := upd s.ranges id { cb := cb, next := 0, go := true, log := [] } }
    | .rangeStep id order => ∃ rc, s.ranges id = some rc ∧ (rc.go = true ∧ rc.next < c.num ∧ order.Perm (s.shard rc.next)) ∧
        s' = { s with ranges := upd s.ranges id { rc with next := rc.next + 1, go := (visit rc.cb rc.log order).2, log := (visit rc.cb rc.log order).1 } } := by
  cases a with
  | load _ | store _ _ | delete _ => exact (Option.some.inj hst).symm
  | lenStart id | rangeStart id _ =>
    simp only [step] at hst
    split at hst
    · exact ⟨‹_›, (Option.some.inj hst).symm⟩
    · cases hst
  | lenStep id | rangeStep id _ =>
    simp only [step] at hst
    split at hst
    · split at hst
      · exact ⟨_, ‹_›, ‹_›, (Option.some.inj hst).symm⟩
      · cases hst
    · cases hst

theorem step_shards {s s' : State} {a : Act} (hst : step c s a = some s')
    (h1 : ∀ k v, a ≠ .store k v) (h2 : ∀ k, a ≠ .delete k) : ∃ l r, s' = { s with lens := l, ranges := r } := by
  have h := step_inv c hst
  cases a with
  | load k => exact ⟨_, _, h⟩
  | store k v => exact absurd rfl (h1 k v)
  | delete k => exact absurd rfl (h2 k)
  | lenStart id | rangeStart id _ => exact ⟨_, _, h.2⟩
  | lenStep id | rangeStep id _ => obtain ⟨_, _, _, rfl⟩ := h; exact ⟨_, _, rfl⟩

theorem step_ok {s s' : State} {a : Act} (h : WF c s) (hst : step c s a = some s') :
    WF c s' ∧ abs c s' = Spec.run (abs c s) [a] := by
  cases a with
  | store k v => rw [step_inv c hst]; exact store_ok c s k v h
  | delete k => rw [step_inv c hst]; exact delete_ok c s k h
  | _ => obtain ⟨_, _, rfl⟩ := step_shards c hst nofun nofun; exact ⟨⟨h.len, h.nodup, h.home⟩, rfl⟩

theorem wf_step {s s' : State} {a : Act} (h : WF c s) (hst : step c s a = some s') : WF c s' :=
  (step_ok c h hst).1

theorem run_cons (s : State) (a : Act) (tr : List Act) :
    run c s (a :: tr) = (step c s a).bind fun s' => run c s' tr := by
  simp only [run]; cases step c s a <;> rfl

theorem run_cons_some {s s' : State} {a : Act} {tr : List Act} (h : run c s (a :: tr) = some s') :
    ∃ s1, step c s a = some s1 ∧ run c s1 tr = some s' := by
  rw [run_cons] at h; exact Option.bind_eq_some_iff.mp h

theorem wf_run (tr : List Act) {s s' : State} (h : WF c s) (hr : run c s tr = some s') : WF c s' :=
  run_invariant (P := fun _ => WF c) (fun _ => rfl) (run_cons c) (fun _ _ _ _ h hst => wf_step c h hst) tr s s' h hr

theorem restSize_step {s s' : State} {a : Act} (h : WF c s) (hst : step c s a = some s') (n : Nat) :
    s.restSize n ≤ s'.restSize n + removesKey c s a ∧ s'.restSize n ≤ s.restSize n + insertsKey c s a := by
  cases a with
  | store k v =>
    obtain rfl : s' = s.store c k v := step_inv c hst
    exact State.restSize_setShard_le s n _ _ (h.idx_lt k) _ _ (Shard.size_store _ k v)
  | delete k =>
    obtain rfl : s' = s.delete c k := step_inv c hst
    exact State.restSize_setShard_le s n _ _ (h.idx_lt k) _ _ (Shard.size_delete _ k (h.nodup _))
  | _ =>
    obtain ⟨_, _, rfl⟩ := step_shards c hst nofun nofun
    exact ⟨Nat.le_add_right _ _, Nat.le_add_right _ _⟩

theorem upd_self {α : Type} (f : Nat → Option α) (id : Nat) (v : α) : upd f id v id = some v := by
  simp [upd]

theorem upd_ne {α : Type} (f : Nat → Option α) (id j : Nat) (v : α) (h : j ≠ id) : upd f id v j = f j := by
  simp [upd, h]

/-- What `Len` call `id` is heading for: the sum it has so far plus the entries now in the shards still ahead of
it.  A call not yet made has everything ahead of it, like one at index 0 with sum 0. -/
def State.lenGoal (s : State) (id : Nat) : Nat :=
  let lc := (s.lens id).getD { next := 0, sum := 0 }
  lc.sum + s.restSize lc.next

theorem State.lenGoal_of_none {s : State} {id : Nat} (h : s.lens id = none) : s.lenGoal id = s.size := by
  simp only [State.lenGoal, h]; exact Nat.zero_add _

theorem lenGoal_of_result {s : State} {id r : Nat} (hwf : WF c s) (h : lenResult c s id = some r) :
    s.lenGoal id = r := by
  unfold lenResult at h
  split at h
  · rename_i lc hl
    split at h
    · rename_i hn
      cases h
      simp only [State.lenGoal, hl, Option.getD_some, State.restSize_of_ge s _ (Nat.le_of_eq (hwf.len.trans hn.symm))]
      rfl
    · cases h
  · cases h

theorem lenGoal_step (id : Nat) {s s1 : State} {a : Act} (hwf : WF c s) (hst : step c s a = some s1) :
    s.lenGoal id ≤ s1.lenGoal id + removesKey c s a ∧ s1.lenGoal id ≤ s.lenGoal id + insertsKey c s a := by
  -- while the call itself stands still, its goal moves with what lies ahead of it
  have other : ∀ {s1 a}, step c s a = some s1 → s1.lens id = s.lens id →
      s.lenGoal id ≤ s1.lenGoal id + removesKey c s a ∧ s1.lenGoal id ≤ s.lenGoal id + insertsKey c s a := by
    intro s1 a hst hl
    have := restSize_step c hwf hst ((s.lens id).getD { next := 0, sum := 0 }).next
    simp only [State.lenGoal, hl]
    omega
  -- its own sections leave the shards alone and move entries from "ahead" to "summed"
  cases a with
  | load _ | store _ _ | delete _ => obtain rfl : s1 = _ := step_inv c hst; exact other hst rfl
  | rangeStart _ _ => obtain ⟨_, rfl⟩ := step_inv c hst; exact other hst rfl
  | rangeStep _ _ => obtain ⟨_, _, _, rfl⟩ := step_inv c hst; exact other hst rfl
  | lenStart id' =>
    obtain ⟨hn, rfl⟩ := step_inv c hst
    by_cases hid : id = id'
    · subst hid
      simp only [State.lenGoal, upd_self, hn]
      exact ⟨Nat.le_add_right _ _, Nat.le_add_right _ _⟩
    · exact other hst (upd_ne _ _ _ _ hid)
  | lenStep id' =>
    obtain ⟨lc, hl, hlt, rfl⟩ := step_inv c hst
    by_cases hid : id = id'
    · subst hid
      have := State.restSize_succ s lc.next (hwf.len ▸ hlt)
      simp only [State.lenGoal, upd_self, hl, Option.getD_some, State.restSize] at this ⊢
      omega
    · exact other hst (upd_ne _ _ _ _ hid)

theorem lenGoal_run (id : Nat) (tr : List Act) {s s' : State} (hwf : WF c s) (hr : run c s tr = some s') :
    s.lenGoal id ≤ s'.lenGoal id + removes c s tr ∧ s'.lenGoal id ≤ s.lenGoal id + inserts c s tr := by
  induction tr generalizing s with
  | nil => cases hr; exact ⟨Nat.le_add_right _ _, Nat.le_add_right _ _⟩
  | cons a tr ih =>
    obtain ⟨s1, hst, hr⟩ := run_cons_some c hr
    have h1 := lenGoal_step c id hwf hst
    have h2 := ih (wf_step c hwf hst) hr
    simp only [removes, inserts, hst]
    omega

/-- The protocol between one `Range` call and its callback: `log` is what the callback has been passed so far, each
time with the history up to that entry; it said `true` every time but possibly the last, and `go` is its last answer. -/
structure Answered (cb : List Entry → Bool) (log : List Entry) (go : Bool) : Prop where
  calls : ∀ i, i + 1 < log.length → cb (log.take (i + 1)) = true
  last : log ≠ [] → cb log = go
  empty : log = [] → go = true

theorem Answered.nil (cb : List Entry → Bool) : Answered cb [] true :=
  ⟨nofun, fun h => absurd rfl h, fun _ => rfl⟩

theorem Answered.snoc {cb : List Entry → Bool} {log : List Entry} (h : Answered cb log true) (e : Entry) :
    Answered cb (log ++ [e]) (cb (log ++ [e])) := by
  refine ⟨fun i hi => ?_, fun _ => rfl, fun h => absurd h (by simp)⟩
  rw [List.length_append, List.length_singleton] at hi
  rw [List.take_append_of_le_length (by omega)]
  by_cases hlt : i + 1 < log.length
  · exact h.calls i hlt
  · rw [List.take_of_length_le (by omega)]
    exact h.last (fun hnil => by rw [hnil] at hi; simp at hi)

theorem Answered.stopped {cb : List Entry → Bool} {log : List Entry} {go : Bool} (h : Answered cb log go)
    (hg : go = false) : log ≠ [] ∧ cb log = false :=
  have hne : log ≠ [] := fun hl => nomatch (h.empty hl).symm.trans hg
  ⟨hne, (h.last hne).trans hg⟩

theorem visit_spec (cb : List Entry → Bool) (log es : List Entry) (h : Answered cb log true) :
    ∃ new, new <+: es ∧ (visit cb log es).1 = log ++ new ∧ ((visit cb log es).2 = true → new = es) ∧
      Answered cb (visit cb log es).1 (visit cb log es).2 := by
  fun_induction visit cb log es with
  | case1 log => exact ⟨[], List.nil_prefix, (List.append_nil _).symm, fun _ => rfl, h⟩
  | case2 log e es hcb ih =>
    obtain ⟨new, hp, hlog, hall, hans⟩ := ih (hcb ▸ h.snoc e)
    exact ⟨e :: new, List.cons_prefix_cons.2 ⟨rfl, hp⟩, by rw [hlog, List.append_assoc]; rfl,
      fun hg => by rw [hall hg], hans⟩
  | case3 log e es hcb =>
    exact ⟨[e], List.cons_prefix_cons.2 ⟨rfl, List.nil_prefix⟩, rfl, nofun, Bool.eq_false_iff.2 hcb ▸ h.snoc e⟩

theorem visit_shard {cb : List Entry → Bool} {log order : List Entry} {m : Shard} (hperm : order.Perm m)
    (hnd : m.keys.Nodup) (h : Answered cb log true) :
    ∃ new, (visit cb log order).1 = log ++ new ∧ (new.map (·.1)).Nodup ∧ (∀ e ∈ new, m.load e.1 = some e.2) ∧
      ((visit cb log order).2 = true → ∀ k v, m.load k = some v → (k, v) ∈ new) ∧
      Answered cb (visit cb log order).1 (visit cb log order).2 := by
  obtain ⟨new, hp, hlog, hall, hans⟩ := visit_spec cb log order h
  have hmem : ∀ k v, (k, v) ∈ order ↔ m.load k = some v := fun k v =>
    hperm.mem_iff.trans (Shard.mem_iff_load m k v hnd)
  refine ⟨new, hlog, (hp.sublist.map _).nodup ((hperm.map _).nodup_iff.2 hnd),
    fun e he => (hmem e.1 e.2).1 (hp.subset he), fun hg k v hkv => ?_, hans⟩
  rw [hall hg]
  exact (hmem k v).2 hkv

/-- invariant of a `Range` call; the last three clauses are `Answered rc.cb rc.log rc.go`, field by field -/
structure RInv (c : Cfg) (rc : RangeCall) : Prop where
  nodup : (rc.log.map (·.1)).Nodup
  visited : ∀ e ∈ rc.log, c.idx e.1 < rc.next
  calls : ∀ i, i + 1 < rc.log.length → rc.cb (rc.log.take (i + 1)) = true
  last : rc.log ≠ [] → rc.cb rc.log = rc.go
  empty : rc.log = [] → rc.go = true

theorem range_step_inv (id : Nat) {s s1 : State} {a : Act} {rc : RangeCall} (hwf : WF c s)
    (hr : s.ranges id = some rc) (hinv : RInv c rc) (hst : step c s a = some s1) :
    ∃ rc1, s1.ranges id = some rc1 ∧ rc1.cb = rc.cb ∧ RInv c rc1 ∧
      ∀ k v, abs c s k = some v → (rc.go = true → c.idx k < rc.next → (k, v) ∈ rc.log) →
        (rc1.go = true → c.idx k < rc1.next → (k, v) ∈ rc1.log) := by
  cases a with
  | load _ | store _ _ | delete _ => obtain rfl : s1 = _ := step_inv c hst; exact ⟨rc, hr, rfl, hinv, fun _ _ _ h => h⟩
  | lenStart _ => obtain ⟨_, rfl⟩ := step_inv c hst; exact ⟨rc, hr, rfl, hinv, fun _ _ _ h => h⟩
  | lenStep _ => obtain ⟨_, _, _, rfl⟩ := step_inv c hst; exact ⟨rc, hr, rfl, hinv, fun _ _ _ h => h⟩
  | rangeStart id' cb =>
    obtain ⟨hn, rfl⟩ := step_inv c hst
    have hne : id ≠ id' := fun h => by rw [h, hn] at hr; cases hr
    exact ⟨rc, (upd_ne _ _ _ _ hne).trans hr, rfl, hinv, fun _ _ _ h => h⟩
  | rangeStep id' order =>
    obtain ⟨rc0, hr0, ⟨hgo, hlt, hperm⟩, rfl⟩ := step_inv c hst
    by_cases hid : id = id'
    · subst hid
      obtain rfl : rc = rc0 := Option.some.inj (hr.symm.trans hr0)
      obtain ⟨new, hlog, hnd, hmem, hall, hans⟩ :=
        visit_shard (cb := rc.cb) (log := rc.log) hperm (hwf.nodup rc.next) (hgo ▸ ⟨hinv.calls, hinv.last, hinv.empty⟩)
      -- what is new comes from the shard just visited, what is old from earlier ones
      have hnew : ∀ e ∈ new, c.idx e.1 = rc.next := fun e he =>
        hwf.home _ _ ((Shard.mem_keys_iff _ _).2 (by rw [hmem e he]; nofun))
      refine ⟨_, upd_self _ _ _, rfl, ⟨?_, ?_, hans.calls, hans.last, hans.empty⟩, ?_⟩
      · show ((visit rc.cb rc.log order).1.map (·.1)).Nodup
        rw [hlog, List.map_append]
        refine List.nodup_append.2 ⟨hinv.nodup, hnd, fun a ha b hb hab => ?_⟩
        obtain ⟨e1, he1, rfl⟩ := List.mem_map.1 ha
        obtain ⟨e2, he2, rfl⟩ := List.mem_map.1 hb
        exact Nat.ne_of_lt (hinv.visited e1 he1) (hab ▸ hnew e2 he2)
      · intro e he
        rw [show _ = rc.log ++ new from hlog] at he
        rcases List.mem_append.1 he with he | he
        · exact Nat.lt_succ_of_lt (hinv.visited e he)
        · exact Nat.lt_succ_of_le (Nat.le_of_eq (hnew e he))
      · intro k v hkv hseen hgo1 hlt1
        show (k, v) ∈ (visit rc.cb rc.log order).1
        rw [hlog]
        rcases Nat.lt_succ_iff_lt_or_eq.1 hlt1 with hk | hk
        · exact List.mem_append_left _ (hseen hgo hk)
        · exact List.mem_append_right _ (hall hgo1 k v (hk ▸ hkv))
    · exact ⟨rc, (upd_ne _ _ _ _ hid).trans hr, rfl, hinv, fun _ _ _ h => h⟩

theorem range_track (id : Nat) (tr : List Act) {s s' : State} {rc : RangeCall} (hwf : WF c s)
    (hr : s.ranges id = some rc) (hinv : RInv c rc) (hrun : run c s tr = some s') :
    ∃ rc', s'.ranges id = some rc' ∧ rc'.cb = rc.cb ∧ RInv c rc' ∧
      ∀ k v, stable c k v s tr → (rc.go = true → c.idx k < rc.next → (k, v) ∈ rc.log) →
        (rc'.go = true → c.idx k < rc'.next → (k, v) ∈ rc'.log) := by
  induction tr generalizing s rc with
  | nil => cases hrun; exact ⟨rc, hr, rfl, hinv, fun _ _ _ h => h⟩
  | cons a tr ih =>
    obtain ⟨s1, hst, hrun⟩ := run_cons_some c hrun
    obtain ⟨rc1, hr1, hcb1, hinv1, hq1⟩ := range_step_inv c id hwf hr hinv hst
    obtain ⟨rc', hr', hcb', hinv', hq'⟩ := ih (wf_step c hwf hst) hr1 hinv1 hrun
    refine ⟨rc', hr', hcb'.trans hcb1, hinv', fun k v hstab hQ => ?_⟩
    simp only [stable, hst] at hstab
    exact hq' k v hstab.2 (hq1 k v hstab.1 hQ)

end

end CMap

namespace SMap
open CMap

theorem step_ok {m m' : Shard} {a : Act} {r : Ret} (hnd : m.keys.Nodup) (hst : step m a = some (m', r)) :
    specOk (abs m) a r ∧ abs m' = specNext (abs m) a ∧ m'.keys.Nodup := by
  cases a with
  | load k => cases hst; exact ⟨rfl, rfl, hnd⟩
  | store k v => cases hst; exact ⟨trivial, funext (Shard.load_store m k v), Shard.nodup_store _ _ _ hnd⟩
  | delete k => cases hst; exact ⟨trivial, funext (Shard.load_delete m k), Shard.nodup_delete _ _ hnd⟩
  | len => cases hst; exact ⟨⟨m.keys, hnd, (Shard.size_eq m).symm, Shard.mem_keys_iff m⟩, rfl, hnd⟩
  | range cb order =>
    simp only [step] at hst
    split at hst
    · rename_i hperm
      cases hst
      obtain ⟨new, hlog, hnd', hmem, hall, hans⟩ := visit_shard hperm hnd (Answered.nil cb)
      cases (hlog : (visit cb [] order).1 = new)
      exact ⟨⟨hnd', hmem, hans.calls, hans.last, hans.empty, hall⟩, rfl, hnd⟩
    · cases hst

end SMap
