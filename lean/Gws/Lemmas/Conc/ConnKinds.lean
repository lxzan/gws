import Gws.Lemmas.Conc.ConnInv
/-!
# Kind-aware invariants of the connection transition system

The kind of an actor is not part of the state; it is read off the schedule (`kindMap`).
* `KInv`: which program counters an actor of each kind can be at (`Typed`).
* `WInv`: the result of a `WriteClose` call versus the CAS winner.
-/

namespace Conc

/-- number of frames of the complete message an actor of this kind sends -/
def Kind.frames : Kind → Nat
  | .write _ => 1
  | .file n => n + 1
  | .bcast => 1
  | .closer => 0
  | .reader _ => 0

def Kind.isWriter : Kind → Bool
  | .write _ | .file _ | .bcast => true
  | _ => false

def Kind.isReader : Kind → Bool
  | .reader _ => true
  | _ => false

/-- which continuations a close sequence run by an actor of kind `k` can have -/
def ContTyped (k : Kind) : Cont → Prop
  | .ret .ok => k = .closer
  | .ret _ => k.isWriter = true
  | _ => k.isReader = true

/-- the program counters an actor of kind `k` can be at.  The second disjunct at `cTclose`: a `WriteClose`
whose Close-frame write failed goes on with `.ret .ioErr` instead of `.ret .ok` (`Trans.kWriteFailOk`), a
continuation that otherwise only write calls have. -/
def Typed (k : Kind) : Pc → Prop
  | .idle => False
  | .wLock r => k = .write r
  | .wWrite => k = .write false
  | .fLock n => k = .file n
  | .fCheck _ n => k = .file n
  | .bStart | .bLock | .bWrite => k = .bcast
  | .cCas c | .kLock c | .kWrite c => ContTyped k c
  | .cTclose c => ContTyped k c ∨ (c = .ret .ioErr ∧ k = .closer)
  | .rOpen _ | .rLoop _ | .rOnClose => k.isReader = true
  | .done _ => True

def KInv (K : Nat → Option Kind) (s : State) : Prop :=
  ∀ a, match K a with
    | none => s.pc a = .idle
    | some k => Typed k (s.pc a)

theorem KInv.idle_of_none {K : Nat → Option Kind} {s : State} (h : KInv K s) {a : Nat} (hk : K a = none) :
    s.pc a = .idle := by
  have := h a; rw [hk] at this; exact this

theorem KInv.typed {K : Nat → Option Kind} {s : State} (h : KInv K s) {a : Nat} {k : Kind} (hk : K a = some k) :
    Typed k (s.pc a) := by
  have := h a; rw [hk] at this; exact this

theorem KInv.of_idle {K : Nat → Option Kind} {s : State} (h : KInv K s) {a : Nat} (hp : s.pc a = .idle) :
    K a = none := by
  cases hk : K a with
  | none => rfl
  | some k => have := h.typed hk; rw [hp] at this; exact this.elim

theorem KInv.kind_of_ne_idle {K : Nat → Option Kind} {s : State} (h : KInv K s) {a : Nat} (hp : s.pc a ≠ .idle) :
    ∃ k, K a = some k ∧ Typed k (s.pc a) := by
  cases hk : K a with
  | none => exact (hp (h.idle_of_none hk)).elim
  | some k => exact ⟨k, rfl, h.typed hk⟩

theorem typed_startPc (k : Kind) : Typed k (startPc k) := by
  cases k <;> simp [startPc, Typed, Facts.bcClosedCheckUnderLock, ContTyped, Kind.isReader]

theorem kinv_init : KInv (kindMap []) {} := by
  intro a; simp

theorem Trans.typed {s t : State} {a : Nat} {f : Bool} {q p' : Pc} {k : Kind} (ht : Trans s a f q t p')
    (h : Typed k q) : Typed k p' := by
  cases ht <;> simp_all [Typed, ContTyped, Kind.isWriter, Kind.isReader]

theorem kinv_step {K : Nat → Option Kind} {s s' : State} {x : Action} (hi : KInv K s)
    (h : step s x = some s') : KInv (updK K x) s' := by
  cases x with
  | spawn a k =>
    obtain ⟨rfl, -⟩ := spawn_cases h
    intro b
    simp only [updK, pc_setPc]
    by_cases hb : b = a
    · simp only [hb, if_true]; exact typed_startPc k
    · simp only [hb, if_false]; exact hi b
  | act a f =>
    obtain ⟨t, p', rfl, hp, ht⟩ := act_cases h
    intro b
    simp only [updK, pc_after hp]
    by_cases hb : b = a
    · subst hb
      obtain ⟨k, hk, hty⟩ := hi.kind_of_ne_idle ht.ne_idle
      simp only [if_true, hk]
      exact ht.typed hty
    · simp only [hb, if_false]; exact hi b

/-- what a `closer` actor's program counter says about the CAS winner -/
def CloserOK (w : Option Nat) (a : Nat) : Pc → Prop
  | .cCas _ => w ≠ some a
  | .done r => (r = .closed ∧ w ≠ some a) ∨ ((r = .ok ∨ r = .ioErr) ∧ w = some a)
  | _ => True

def WInv (K : Nat → Option Kind) (s : State) : Prop :=
  ∀ a, K a = some .closer → CloserOK s.winner a (s.pc a)

theorem winv_init : WInv (kindMap []) {} := by
  intro a; simp

theorem Trans.closerOK {s t : State} {a : Nat} {f : Bool} {q p' : Pc} (ht : Trans s a f q t p')
    (hty : Typed .closer q) (hw : q.inCloseSeq = true → s.winner = some a)
    (h : CloserOK s.winner a q) : CloserOK t.winner a p' := by
  cases ht with
  | tcloseRet r => cases r <;> simp_all [CloserOK, Typed, ContTyped, Kind.isWriter, Pc.inCloseSeq]
  | _ => simp_all [CloserOK, Typed, ContTyped, Kind.isWriter, Kind.isReader, Pc.inCloseSeq]

theorem CloserOK.of_none {a b : Nat} {p : Pc} (h : CloserOK none b p) (hba : b ≠ a) :
    CloserOK (some a) b p := by
  have hab : a ≠ b := fun e => hba e.symm
  cases p <;> simp_all [CloserOK]

theorem winv_step {K : Nat → Option Kind} {s s' : State} {x : Action} (hc : CInv s) (hk : KInv K s)
    (hi : WInv K s) (h : step s x = some s') : WInv (updK K x) s' := by
  cases x with
  | spawn a k =>
    obtain ⟨rfl, hidle⟩ := spawn_cases h
    intro b
    simp only [updK, pc_setPc, setPc_winner]
    by_cases hb : b = a
    · subst hb
      simp only [if_true]
      intro hk
      cases hk
      -- a fresh actor cannot be the winner
      intro hw
      have := hc.winner_pc b hw
      rw [hidle] at this
      simp [Pc.inCloseSeq, Pc.finishedClose] at this
    · simp only [hb, if_false]; exact hi b
  | act a f =>
    obtain ⟨t, p', rfl, hp, ht⟩ := act_cases h
    intro b hb
    simp only [pc_after hp, setPc_winner]
    by_cases hba : b = a
    · subst hba
      simp only [if_true]
      exact ht.closerOK (hk.typed hb) (hc.closeSeq_winner b) (hi b hb)
    · simp only [hba, if_false]
      rcases ht.flags with ⟨-, e, -⟩ | ⟨k, -, -, hcl, -, e, -⟩
      · rw [e]; exact hi b hb
      · have := hi b hb
        rw [hc.winner_none hcl] at this
        rw [e]; exact this.of_none hba

end Conc
