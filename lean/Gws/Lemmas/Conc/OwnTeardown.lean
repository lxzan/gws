import Gws.Lemmas.Conc.OwnPaths
/-! Teardown of a server connection concurrent with writers: the compression window is put back only
while the read loop itself holds `c.mu`, i.e. with no writer between lock and unlock, and once it is
back no writer in flight has any use of it left. Invariant over every interleaving at event granularity.
Of `s.trace` only the window location `s.m` is followed (`Inv.cell`), from `⟨.guarded, none⟩`, the state `upgradeServer`
leaves it in; of a writer's other locations `spawn` asks only that they differ from `s.m`. -/
namespace Own
namespace TD

/-- the window/mutex operations that a writer holding `c.mu` still has to perform -/
def CsOps (q : Pid) (ops : List BOp) : Prop :=
  ops = [.read q, .write q, .unlock q] ∨ ops = [.write q, .unlock q] ∨ ops = [.unlock q]

structure Inv (s : TD) : Prop where
  /-- a writer past its lock: inside the critical section iff it is the holder; a writer that locked
  after the reclamation has nothing but the unlock left -/
  running : ∀ q l, s.thr q = .running l → q ≠ s.r ∧
    (if s.holder = some q then CsOps q (bufOps s.m l) ∧ (s.reclaimed = true → bufOps s.m l = [.unlock q])
     else bufOps s.m l = [])
  waiting : ∀ q w, s.thr q = .waiting w → w.p = q ∧ q ≠ s.r ∧ w.z ≠ s.m ∧ w.f ≠ s.m ∧ s.holder ≠ some q
  hold : ∀ q, s.holder = some q → q = s.r ∨ ∃ l, s.thr q = .running l
  reader : match s.reader with
    | none => s.reclaimed = false ∧ s.holder ≠ some s.r
    | some l => s.closed = true ∧
        ((l = [.put s.m s.r, .unlock s.m s.r] ∧ s.holder = some s.r ∧ s.reclaimed = false) ∨
         (l = [.unlock s.m s.r] ∧ s.holder = some s.r ∧ s.reclaimed = true) ∨
         (l = [] ∧ s.holder ≠ some s.r))
  cell : runCell ⟨.guarded, none⟩ (bufOps s.m s.trace) =
    some ⟨if s.reclaimed then .pool else .guarded, s.holder⟩

theorem inv_init (m : Buf) (r : Pid) : Inv (init m r) := by
  constructor <;> simp [init]

theorem bufOps_body (w : Writer) (m : Buf) (hz : w.z ≠ m) (hf : w.f ≠ m) :
    bufOps m (body w m) = (if w.compressed then [.read w.p] else []) ++ [.write w.p, .unlock w.p] := by
  -- `body` is `writeFrame` without its first two events, `callerLend` and `lock`
  have e : bufOps m (writeFrame w.compressed true w.client w.p w.c m w.z w.f) = .lock w.p :: bufOps m (body w m) :=
    (bufOps_caller ..).trans (bufOps_self ..)
  have := writeFrame_at_mu w.compressed true w.client w.p w.c m w.z w.f hz.symm hf.symm
  rw [e] at this
  simpa using this

theorem bufOps_closedBody (w : Writer) (m : Buf) : bufOps m (closedBody w m) = [.unlock w.p] := by
  simp [closedBody, writeFrameClosed]

theorem reclaimed_closed {s : TD} (hi : Inv s) (h : s.reclaimed = true) : s.closed = true := by
  have := hi.reader
  cases hr : s.reader with
  | none => simp [hr, h] at this
  | some l => simp only [hr] at this; exact this.1

theorem step_consts {s s' : TD} {a : TAct} (hs : s.step a = some s') : s'.m = s.m ∧ s'.r = s.r := by
  revert hs
  fun_cases TD.step s a <;> rintro ⟨⟩ <;> exact ⟨rfl, rfl⟩

/-- a writer that does not hold `c.mu` has nothing left to do at the window location, and that is all its
clause asks, whoever holds the mutex before (`s.holder`) and after (`hd`) the step -/
theorem Inv.running_out {s : TD} (hi : Inv s) {q : Pid} {l : List Ev} (hq : s.thr q = .running l)
    (hne : s.holder ≠ some q) {hd : Option Pid} (hne' : hd ≠ some q) {rc : Bool} :
    q ≠ s.r ∧ (if hd = some q then CsOps q (bufOps s.m l) ∧ (rc = true → bufOps s.m l = [.unlock q])
      else bufOps s.m l = []) := by
  obtain ⟨h1, h2⟩ := hi.running q l hq
  rw [if_neg hne] at h2
  exact ⟨h1, by rw [if_neg hne']; exact h2⟩

/-- the read loop's clause looks at the writers only through "does the read loop hold `c.mu`" -/
theorem Inv.reader_congr {s : TD} (hi : Inv s) {cl : Bool} {hd : Option Pid} (hc : s.closed = true → cl = true)
    (hh : hd = some s.r ↔ s.holder = some s.r) :
    match s.reader with
    | none => s.reclaimed = false ∧ hd ≠ some s.r
    | some l => cl = true ∧
        ((l = [.put s.m s.r, .unlock s.m s.r] ∧ hd = some s.r ∧ s.reclaimed = false) ∨
         (l = [.unlock s.m s.r] ∧ hd = some s.r ∧ s.reclaimed = true) ∨
         (l = [] ∧ hd ≠ some s.r)) := by
  have := hi.reader
  cases hr : s.reader with
  | none => simp only [hr, ne_eq, hh] at this ⊢; exact this
  | some l => simp only [hr, ne_eq, hh] at this ⊢; exact ⟨hc this.1, this.2⟩

theorem inv_spawn {s s' : TD} {w : Writer} (hi : Inv s) (hs : s.step (.spawn w) = some s') : Inv s' := by
  simp only [step] at hs
  split at hs
  · rename_i hg
    obtain ⟨habs, hpr, hzm, hfm⟩ := hg
    cases hs
    have hnh : s.holder ≠ some w.p := fun hh => by
      rcases hi.hold _ hh with e | ⟨l, e⟩
      · exact hpr e
      · rw [habs] at e; cases e
    refine ⟨fun q l hq => ?_, fun q w' hq => ?_, fun q hq => ?_, hi.reader, ?_⟩
    · rcases upd_eq_iff.mp hq with ⟨_, ht⟩ | ⟨_, hq⟩
      · cases ht
      · exact hi.running q l hq
    · rcases upd_eq_iff.mp hq with ⟨rfl, ht⟩ | ⟨_, hq⟩
      · cases ht; exact ⟨rfl, hpr, hzm, hfm, hnh⟩
      · exact hi.waiting q w' hq
    · refine (hi.hold q hq).imp_right fun ⟨l, e⟩ => ⟨l, upd_eq_iff.mpr (Or.inr ⟨?_, e⟩)⟩
      rintro rfl; rw [habs] at e; cases e
    · rw [cell_snoc hi.cell]; rfl
  · cases hs

theorem inv_wLock {s s' : TD} {p : Pid} (hi : Inv s) (hs : s.step (.wLock p) = some s') : Inv s' := by
  simp only [step] at hs
  split at hs
  · rename_i w hthr hhol
    cases hs
    obtain ⟨hwp, hpr, hzm, hfm, _⟩ := hi.waiting p w hthr
    refine ⟨fun q l hq => ?_, fun q w' hq => ?_, fun q hq => ?_, ?_, ?_⟩
    · rcases upd_eq_iff.mp hq with ⟨rfl, ht⟩ | ⟨hqp, hq⟩
      · cases ht
        refine ⟨hpr, ?_⟩
        rw [if_pos rfl]
        split
        · rw [bufOps_closedBody, hwp]
          exact ⟨Or.inr (Or.inr rfl), fun _ => rfl⟩
        · rename_i hc
          rw [bufOps_body w s.m hzm hfm, hwp]
          refine ⟨?_, fun hrec => absurd (reclaimed_closed hi hrec) hc⟩
          cases w.compressed
          · exact Or.inr (Or.inl rfl)
          · exact Or.inl rfl
      · exact hi.running_out hq (by rw [hhol]; simp) (by simp [Ne.symm hqp])
    · rcases upd_eq_iff.mp hq with ⟨_, ht⟩ | ⟨hqp, hq⟩
      · cases ht
      · obtain ⟨a1, a2, a3, a4, _⟩ := hi.waiting q w' hq
        exact ⟨a1, a2, a3, a4, by simp [Ne.symm hqp]⟩
    · cases hq; exact Or.inr ⟨_, upd_get _ _ _⟩
    · exact hi.reader_congr id ⟨fun h => absurd (Option.some.inj h) hpr, fun h => by rw [hhol] at h; cases h⟩
    · rw [cell_snoc hi.cell, hhol]; simp only [own_proj, own_run]
  · cases hs

theorem inv_wStep {s s' : TD} {p : Pid} (hi : Inv s) (hs : s.step (.wStep p) = some s') : Inv s' := by
  simp only [step] at hs
  split at hs
  · rename_i e rest hthr
    cases hs
    obtain ⟨hpr, hcs⟩ := hi.running p _ hthr
    have hwait' : ∀ q w, upd s.thr p (.running rest) q = .waiting w → s.thr q = .waiting w := fun q w hq => by
      rcases upd_eq_iff.mp hq with ⟨_, ht⟩ | ⟨_, hq⟩
      · cases ht
      · exact hq
    by_cases hu : e = .unlock s.m p
    · -- the unlock: `p` was the holder and has nothing left to do with the window
      subst hu
      simp only [bufOps_self] at hcs
      have hh : s.holder = some p := Classical.byContradiction fun hh => by simp [hh] at hcs
      have e2 : bufOps s.m rest = [] := by
        simp only [hh, if_true] at hcs
        rcases hcs.1 with e1 | e1 | e1 <;> simp at e1
        exact e1
      simp only [if_true]
      refine ⟨fun q l hq => ?_, fun q w hq => ?_, (fun q hq => by cases hq), ?_, ?_⟩
      · rcases upd_eq_iff.mp hq with ⟨rfl, ht⟩ | ⟨hqp, hq⟩
        · cases ht; exact ⟨hpr, by simp [e2]⟩
        · exact hi.running_out hq (by rw [hh]; simp [Ne.symm hqp]) (by simp)
      · obtain ⟨a1, a2, a3, a4, _⟩ := hi.waiting q w (hwait' q w hq)
        exact ⟨a1, a2, a3, a4, by simp⟩
      · exact hi.reader_congr (hd := none) id
          ⟨nofun, fun h => absurd (Option.some.inj (hh.symm.trans h)) hpr⟩
      · rw [cell_snoc hi.cell, hh]; simp only [own_proj, own_run]
    · -- any other event: the lock stays where it is; on the window location only the holder acts,
      -- by a read or a write inside its critical section
      simp only [eq_false hu, if_false]
      have key : (if s.holder = some p then
            CsOps p (bufOps s.m rest) ∧ (s.reclaimed = true → bufOps s.m rest = [.unlock p])
          else bufOps s.m rest = []) ∧
          runCell ⟨.guarded, none⟩ (bufOps s.m (s.trace ++ [e])) =
            some ⟨if s.reclaimed then .pool else .guarded, s.holder⟩ := by
        rw [cell_snoc hi.cell]
        cases e with
        | caller c op => exact ⟨hcs, rfl⟩
        | buf b op =>
          by_cases hb : b = s.m
          · subst hb
            simp only [bufOps_self, bufOps_nil] at hcs ⊢
            by_cases hh : s.holder = some p
            · simp only [hh, if_true] at hcs ⊢
              have hnr : s.reclaimed = false := by
                cases hr : s.reclaimed with
                | false => rfl
                | true =>
                  -- after the reclamation the holder has only its unlock left: `e` would be that unlock
                  obtain ⟨rfl, -⟩ := List.cons.inj (hcs.2 hr)
                  exact absurd rfl hu
              rcases hcs.1 with e1 | e1 | e1 <;> simp only [List.cons.injEq] at e1 <;> obtain ⟨rfl, e2⟩ := e1
              · exact ⟨⟨Or.inr (Or.inl e2), by simp [hnr]⟩, by simp [hnr, own_run]⟩
              · exact ⟨⟨Or.inr (Or.inr e2), by simp [hnr]⟩, by simp [hnr, own_run]⟩
              · exact absurd rfl hu
            · simp [hh] at hcs
          · simp only [bufOps_ne hb, bufOps_nil] at hcs ⊢; exact ⟨hcs, rfl⟩
      refine ⟨fun q l hq => ?_, fun q w hq => hi.waiting q w (hwait' q w hq), fun q hq => ?_, hi.reader, key.2⟩
      · rcases upd_eq_iff.mp hq with ⟨rfl, ht⟩ | ⟨_, hq⟩
        · cases ht; exact ⟨hpr, key.1⟩
        · exact hi.running q l hq
      · by_cases hqp : q = p
        · subst hqp; exact Or.inr ⟨_, upd_get _ _ _⟩
        · exact (hi.hold q hq).imp_right fun ⟨l, e'⟩ => ⟨l, upd_eq_iff.mpr (Or.inr ⟨hqp, e'⟩)⟩
  · cases hs

theorem inv_rTry {s s' : TD} (hi : Inv s) (hs : s.step .rTry = some s') : Inv s' := by
  simp only [step] at hs
  split at hs
  · rename_i hg
    obtain ⟨hcl, hrn⟩ := hg
    have hrdr := hi.reader
    simp only [hrn] at hrdr
    obtain ⟨hnrec, hnr⟩ := hrdr
    cases hh : s.holder with
    | none =>
      -- it succeeds: the read loop is the holder, no writer is inside
      simp only [hh, Option.isNone_none, reclaimWindow, if_true, Option.some.injEq] at hs; subst hs
      refine ⟨fun q l hq => ?_, fun q w hq => ?_, fun q hq => ?_, ⟨hcl, Or.inl ⟨rfl, rfl, hnrec⟩⟩, ?_⟩
      · exact hi.running_out hq (by rw [hh]; simp) (by simp [Ne.symm (hi.running q l hq).1])
      · obtain ⟨a1, a2, a3, a4, _⟩ := hi.waiting q w hq
        exact ⟨a1, a2, a3, a4, by simp [Ne.symm a2]⟩
      · cases hq; exact Or.inl rfl
      · rw [cell_snoc hi.cell, hh]; simp only [own_proj, own_run]
    | some q0 =>
      -- it fails: nothing changes but the trace
      have hn : s.holder.isNone = false := by rw [hh]; rfl
      simp only [hn, reclaimWindow, Bool.false_eq_true, if_false, Option.some.injEq] at hs
      subst hs
      have hq0 : q0 ≠ s.r := fun e => hnr (by rw [hh, e])
      refine ⟨hi.running, hi.waiting, hi.hold, ⟨hcl, Or.inr (Or.inr ⟨rfl, hnr⟩)⟩, ?_⟩
      rw [cell_snoc hi.cell, hh]; simp only [own_proj, own_run, runCell_tryLockFail hq0]
  · cases hs

theorem inv_rStep {s s' : TD} (hi : Inv s) (hs : s.step .rStep = some s') : Inv s' := by
  simp only [step] at hs
  split at hs
  · rename_i e rest hrd
    cases hs
    have hrdr := hi.reader
    simp only [hrd] at hrdr
    obtain ⟨hcl, hcases⟩ := hrdr
    have hout : s.holder = some s.r → ∀ q l, s.thr q = .running l → s.holder ≠ some q := fun hh q l hq => by
      rw [hh]; simp [Ne.symm (hi.running q l hq).1]
    rcases hcases with ⟨hl, hh, hnrec⟩ | ⟨hl, hh, hrec⟩ | ⟨hl, _⟩
    · simp only [List.cons.injEq] at hl
      obtain ⟨rfl, rfl⟩ := hl
      have hne : (Ev.put s.m s.r = Ev.unlock s.m s.r) = False := by simp
      simp only [hne, if_false]
      refine ⟨fun q l hq => ?_, hi.waiting, hi.hold, ⟨hcl, Or.inr (Or.inl ⟨rfl, hh, by simp⟩)⟩, ?_⟩
      · exact hi.running_out hq (hout hh q l hq) (hout hh q l hq)
      · rw [cell_snoc hi.cell, hh, hnrec]
        simp only [own_proj, own_run, Bool.or_true, beq_self_eq_true]
    · simp only [List.cons.injEq] at hl
      obtain ⟨rfl, rfl⟩ := hl
      simp only [if_true]
      refine ⟨fun q l hq => ?_, fun q w hq => ?_, (fun q hq => by cases hq),
        ⟨hcl, Or.inr (Or.inr ⟨rfl, by simp⟩)⟩, ?_⟩
      · exact hi.running_out hq (hout hh q l hq) (by simp)
      · obtain ⟨a1, a2, a3, a4, _⟩ := hi.waiting q w hq
        exact ⟨a1, a2, a3, a4, by simp⟩
      · rw [cell_snoc hi.cell, hh]; simp [hrec, own_proj, own_run]
    · cases hl
  · cases hs

theorem inv_step (s s' : TD) (a : TAct) (hi : Inv s) (hs : s.step a = some s') : Inv s' := by
  cases a with
  | spawn w => exact inv_spawn hi hs
  | wLock p => exact inv_wLock hi hs
  | wStep p => exact inv_wStep hi hs
  | setClosed => cases hs; exact ⟨hi.running, hi.waiting, hi.hold, hi.reader_congr (fun _ => rfl) Iff.rfl, hi.cell⟩
  | rTry => exact inv_rTry hi hs
  | rStep => exact inv_rStep hi hs

theorem inv_run (s s' : TD) (acts : List TAct) (hi : Inv s) (hr : s.run acts = some s') : Inv s' :=
  run_invariant (run := TD.run) (P := fun _ s => Inv s) (fun _ => rfl) (fun _ _ _ => rfl)
    (fun s a _ s' hi hs => inv_step s s' a hi hs) acts s s' hi hr

theorem consts_run (s s' : TD) (acts : List TAct) (hr : s.run acts = some s') : s'.m = s.m ∧ s'.r = s.r :=
  run_invariant (run := TD.run) (P := fun _ t => t.m = s.m ∧ t.r = s.r) (fun _ => rfl) (fun _ _ _ => rfl)
    (fun _ _ _ _ hi hs => ⟨(step_consts hs).1.trans hi.1, (step_consts hs).2.trans hi.2⟩) acts s s' ⟨rfl, rfl⟩ hr

end TD
end Own
