import Gws.Basic
import Gws.Model.Conc.Own
import Gws.Lemmas.Conc.OwnAttr
/-! Basic facts about the ownership heap. Every event touches exactly one location, so a run is nothing but
the independent runs of the per-location operation lists (`run_eq_some_iff`, `wellOwned_iff`); everything
else is proved on one cell: project the path to the location (`own_proj`), then evaluate a short operation
list on a cell whose owner is known (`own_run`). -/
namespace Own

@[simp] theorem upd_get {α : Type} (f : Nat → α) (k : Nat) (v : α) : upd f k v k = v := by simp [upd]
@[simp] theorem upd_get_ne {α : Type} (f : Nat → α) (k x : Nat) (v : α) (h : x ≠ k) : upd f k v x = f x := by
  simp [upd, h]
theorem upd_eq_iff {α : Type} {f : Nat → α} {k x : Nat} {v y : α} :
    upd f k v x = y ↔ x = k ∧ v = y ∨ x ≠ k ∧ f x = y := by
  by_cases h : x = k <;> simp [upd, h]
@[simp] theorem upd_self {α : Type} (f : Nat → α) (k : Nat) : upd f k (f k) = f := by
  funext x; simp only [upd]; split <;> simp_all
@[simp] theorem upd_upd {α : Type} (f : Nat → α) (k : Nat) (v w : α) : upd (upd f k v) k w = upd f k w := by
  funext x; simp only [upd]; split <;> simp_all

@[simp] theorem run_nil (h : Heap) : run h [] = some h := rfl
theorem run_cons (h : Heap) (e : Ev) (es : List Ev) : run h (e :: es) = (step h e).bind fun h' => run h' es := rfl

theorem run_append (h : Heap) (l1 l2 : List Ev) : run h (l1 ++ l2) = (run h l1).bind fun h' => run h' l2 :=
  optRun_append run_nil run_cons h l1 l2

theorem step_libReadCaller {h : Heap} {c : CBuf} {p : Pid} (hl : h.lent c = some p) :
    step h (.libReadCaller c p) = some h := by
  have : upd h.lent c (some p) = h.lent := by rw [← hl]; exact upd_self _ _
  simp [step, COp.apply, hl, this]

@[simp] theorem optl_true (l : List Ev) : optl true l = l := rfl
@[simp] theorem optl_false (l : List Ev) : optl false l = [] := rfl

theorem bigDeflaterGet_eq (client : Bool) (p : Pid) (z : Buf) :
    bigDeflaterGet client p z = .buf z (if client then .lock p else .get p) := by cases client <;> rfl
theorem bigDeflaterPut_eq (client : Bool) (p : Pid) (z : Buf) :
    bigDeflaterPut client p z = .buf z (if client then .unlock p else .put p) := by cases client <;> rfl

def bufOps (x : Buf) : List Ev → List BOp
  | [] => []
  | .buf b op :: l => if b = x then op :: bufOps x l else bufOps x l
  | .caller _ _ :: l => bufOps x l

def callerOps (y : CBuf) : List Ev → List COp
  | [] => []
  | .buf _ _ :: l => callerOps y l
  | .caller c op :: l => if c = y then op :: callerOps y l else callerOps y l

def runCell (c : Cell) : List BOp → Option Cell
  | [] => some c
  | op :: ops => (op.apply c).bind fun c' => runCell c' ops

def runLent (s : Option Pid) : List COp → Option (Option Pid)
  | [] => some s
  | op :: ops => (op.apply s).bind fun s' => runLent s' ops

@[simp] theorem bufOps_nil (x : Buf) : bufOps x [] = [] := rfl
@[simp] theorem bufOps_buf (x b : Buf) (op : BOp) (l : List Ev) :
    bufOps x (.buf b op :: l) = if b = x then op :: bufOps x l else bufOps x l := rfl
@[simp] theorem bufOps_caller (x : Buf) (c : CBuf) (op : COp) (l : List Ev) :
    bufOps x (.caller c op :: l) = bufOps x l := rfl
@[simp] theorem callerOps_nil (y : CBuf) : callerOps y [] = [] := rfl
@[simp] theorem callerOps_buf (y : CBuf) (b : Buf) (op : BOp) (l : List Ev) :
    callerOps y (.buf b op :: l) = callerOps y l := rfl
@[simp] theorem callerOps_caller (y c : CBuf) (op : COp) (l : List Ev) :
    callerOps y (.caller c op :: l) = if c = y then op :: callerOps y l else callerOps y l := rfl

def Ev.bufAt (x : Buf) : Ev → Option BOp
  | .buf b op => if b = x then some op else none
  | .caller _ _ => none

def Ev.callerAt (y : CBuf) : Ev → Option COp
  | .buf _ _ => none
  | .caller c op => if c = y then some op else none

/-- both projections are `filterMap`s: the library's `filterMap` lemmas and `Interleave.filterMap` hold for both -/
theorem bufOps_eq_filterMap (x : Buf) (l : List Ev) : bufOps x l = l.filterMap (Ev.bufAt x) := by
  induction l with
  | nil => rfl
  | cons e es ih => cases e with
    | buf b op => rw [bufOps_buf, List.filterMap_cons, ih]; simp only [Ev.bufAt]; split <;> rfl
    | caller c op => rw [bufOps_caller, List.filterMap_cons, ih]; rfl

theorem callerOps_eq_filterMap (y : CBuf) (l : List Ev) : callerOps y l = l.filterMap (Ev.callerAt y) := by
  induction l with
  | nil => rfl
  | cons e es ih => cases e with
    | buf b op => rw [callerOps_buf, List.filterMap_cons, ih]; rfl
    | caller c op => rw [callerOps_caller, List.filterMap_cons, ih]; simp only [Ev.callerAt]; split <;> rfl

-- `↓`: a path is cut at its `++` before `simp` enters it; otherwise the list lemmas of `own_proj` first flatten the
-- whole event list, which is then projected event by event all the same
@[simp, own_proj ↓] theorem bufOps_append (x : Buf) (l1 l2 : List Ev) :
    bufOps x (l1 ++ l2) = bufOps x l1 ++ bufOps x l2 := by
  simp only [bufOps_eq_filterMap, List.filterMap_append]

@[simp, own_proj ↓] theorem callerOps_append (y : CBuf) (l1 l2 : List Ev) :
    callerOps y (l1 ++ l2) = callerOps y l1 ++ callerOps y l2 := by
  simp only [callerOps_eq_filterMap, List.filterMap_append]

@[own_proj] theorem bufOps_self (x : Buf) (op : BOp) (l : List Ev) : bufOps x (.buf x op :: l) = op :: bufOps x l :=
  if_pos rfl
@[own_proj] theorem bufOps_ne {x b : Buf} (h : b ≠ x) (op : BOp) (l : List Ev) :
    bufOps x (.buf b op :: l) = bufOps x l := if_neg h
-- tried first: the hypotheses that a walk over the locations (`by_cases h : x = a`) leaves behind read `x ≠ a`
@[own_proj high] theorem bufOps_ne' {x b : Buf} (h : x ≠ b) (op : BOp) (l : List Ev) :
    bufOps x (.buf b op :: l) = bufOps x l := if_neg h.symm
@[own_proj] theorem callerOps_self (y : CBuf) (op : COp) (l : List Ev) :
    callerOps y (.caller y op :: l) = op :: callerOps y l := if_pos rfl
@[own_proj] theorem callerOps_ne' {y c : CBuf} (h : y ≠ c) (op : COp) (l : List Ev) :
    callerOps y (.caller c op :: l) = callerOps y l := if_neg h.symm

@[own_proj] theorem bufOps_ite (x : Buf) (c : Bool) (l1 l2 : List Ev) :
    bufOps x (if c = true then l1 else l2) = if c = true then bufOps x l1 else bufOps x l2 := by cases c <;> rfl
@[own_proj] theorem callerOps_ite (y : CBuf) (c : Bool) (l1 l2 : List Ev) :
    callerOps y (if c = true then l1 else l2) = if c = true then callerOps y l1 else callerOps y l2 := by
  cases c <;> rfl

attribute [own_proj] bufOps_nil bufOps_caller callerOps_nil callerOps_buf List.cons_append List.nil_append
  List.append_assoc List.append_nil if_true if_false ite_self ne_eq not_false_eq_true

@[simp] theorem runCell_nil (c : Cell) : runCell c [] = some c := rfl
theorem runCell_cons (c : Cell) (op : BOp) (ops : List BOp) :
    runCell c (op :: ops) = (op.apply c).bind fun c' => runCell c' ops := rfl
@[simp] theorem runLent_nil (s : Option Pid) : runLent s [] = some s := rfl
theorem runLent_cons (s : Option Pid) (op : COp) (ops : List COp) :
    runLent s (op :: ops) = (op.apply s).bind fun s' => runLent s' ops := rfl

theorem runCell_append (c : Cell) (l1 l2 : List BOp) :
    runCell c (l1 ++ l2) = (runCell c l1).bind fun c' => runCell c' l2 :=
  optRun_append runCell_nil runCell_cons c l1 l2

theorem runLent_append (s : Option Pid) (l1 l2 : List COp) :
    runLent s (l1 ++ l2) = (runLent s l1).bind fun s' => runLent s' l2 :=
  optRun_append runLent_nil runLent_cons s l1 l2

-- these discharge the side condition `c.usable p` of the equations below; for a cell that is a variable, from a
-- hypothesis on its owner in the context (hence `simp only [own_run, *]`)
@[own_run] theorem Cell.usable_lib (p : Pid) (k : Option Pid) : Cell.usable ⟨.lib p, k⟩ p := Or.inl rfl
@[own_run] theorem Cell.usable_of_lib {c : Cell} {p : Pid} (h : c.own = .lib p) : c.usable p := Or.inl h
@[own_run] theorem Cell.usable_guarded (p : Pid) : Cell.usable ⟨.guarded, some p⟩ p := Or.inr ⟨rfl, rfl⟩

-- the equations below for `get`, `alloc`, `handoff`, … match a cell written `⟨.pool, k⟩`, `⟨.lib p, k⟩`: a cell that
-- is a variable is first rewritten to that form
theorem cell_pool_eta {c : Cell} (h : c.own = .pool) : c = ⟨.pool, c.held⟩ := by cases c; simp_all
theorem cell_lib_eta {c : Cell} {p : Pid} (h : c.own = .lib p) : c = ⟨.lib p, c.held⟩ := by cases c; simp_all

@[own_run] theorem runCell_read {c : Cell} {p : Pid} (h : c.usable p) (ops : List BOp) :
    runCell c (.read p :: ops) = runCell c ops := by simp [runCell_cons, BOp.apply, h]
@[own_run] theorem runCell_write {c : Cell} {p : Pid} (h : c.usable p) (ops : List BOp) :
    runCell c (.write p :: ops) = runCell c ops := by simp [runCell_cons, BOp.apply, h]
@[own_run] theorem runCell_get (k : Option Pid) (p : Pid) (ops : List BOp) :
    runCell ⟨.pool, k⟩ (.get p :: ops) = runCell ⟨.lib p, k⟩ ops := by simp [runCell_cons, BOp.apply]
@[own_run] theorem runCell_alloc (k : Option Pid) (p : Pid) (ops : List BOp) :
    runCell ⟨.pool, k⟩ (.alloc p :: ops) = runCell ⟨.lib p, k⟩ ops := by simp [runCell_cons, BOp.apply]
@[own_run] theorem runCell_put {c : Cell} {p : Pid} (h : c.usable p) (ops : List BOp) :
    runCell c (.put p :: ops) = runCell ⟨.pool, c.held⟩ ops := by simp [runCell_cons, BOp.apply, h]
@[own_run] theorem runCell_drop {c : Cell} {p : Pid} (h : c.usable p) (ops : List BOp) :
    runCell c (.drop p :: ops) = runCell ⟨.pool, c.held⟩ ops := by simp [runCell_cons, BOp.apply, h]
@[own_run] theorem runCell_handoff (k : Option Pid) (p : Pid) (ops : List BOp) :
    runCell ⟨.lib p, k⟩ (.handoff p :: ops) = runCell ⟨.app, k⟩ ops := by simp [runCell_cons, BOp.apply]
@[own_run] theorem runCell_appRead (k : Option Pid) (ops : List BOp) :
    runCell ⟨.app, k⟩ (.appRead :: ops) = runCell ⟨.app, k⟩ ops := by simp [runCell_cons, BOp.apply]
@[own_run] theorem runCell_appClose (k : Option Pid) (ops : List BOp) :
    runCell ⟨.app, k⟩ (.appClose :: ops) = runCell ⟨.pool, k⟩ ops := by simp [runCell_cons, BOp.apply]
@[own_run] theorem runCell_guard (k : Option Pid) (p : Pid) (ops : List BOp) :
    runCell ⟨.lib p, k⟩ (.guard p :: ops) = runCell ⟨.guarded, k⟩ ops := by simp [runCell_cons, BOp.apply]
@[own_run] theorem runCell_lock (o : Owner) (p : Pid) (ops : List BOp) :
    runCell ⟨o, none⟩ (.lock p :: ops) = runCell ⟨o, some p⟩ ops := by simp [runCell_cons, BOp.apply]
@[own_run] theorem runCell_unlock (o : Owner) (p : Pid) (ops : List BOp) :
    runCell ⟨o, some p⟩ (.unlock p :: ops) = runCell ⟨o, none⟩ ops := by simp [runCell_cons, BOp.apply]
theorem runCell_tryLockFail {o : Owner} {p q : Pid} (h : q ≠ p) (ops : List BOp) :
    runCell ⟨o, some q⟩ (.tryLockFail p :: ops) = runCell ⟨o, some q⟩ ops := by simp [runCell_cons, BOp.apply, h]

@[own_run] theorem runLent_lend (p : Pid) (ops : List COp) : runLent none (.lend p :: ops) = runLent (some p) ops := by
  simp [runLent_cons, COp.apply]
@[own_run] theorem runLent_read (p : Pid) (ops : List COp) :
    runLent (some p) (.read p :: ops) = runLent (some p) ops := by simp [runLent_cons, COp.apply]
@[own_run] theorem runLent_ret (p : Pid) (ops : List COp) : runLent (some p) (.ret p :: ops) = runLent none ops := by
  simp [runLent_cons, COp.apply]

theorem runCell_seq {c c' : Cell} {us : List BOp} (h : runCell c us = some c') (ops : List BOp) :
    runCell c (us ++ ops) = runCell c' ops := by rw [runCell_append, h]; rfl

theorem cell_snoc {m : Buf} {tr : List Ev} {c0 c : Cell} (hc : runCell c0 (bufOps m tr) = some c) (e : Ev) :
    runCell c0 (bufOps m (tr ++ [e])) = runCell c (bufOps m [e]) := by
  rw [bufOps_append, runCell_seq hc]

@[own_run] theorem runCell_opt {c : Cell} {us : List BOp} (h : runCell c us = some c) (b : Bool) (ops : List BOp) :
    runCell c ((if b = true then us else []) ++ ops) = runCell c ops := by
  cases b
  · rfl
  · exact runCell_seq h ops

@[own_run] theorem runLent_opt {s : Option Pid} {us : List COp} (h : runLent s us = some s) (b : Bool)
    (ops : List COp) : runLent s ((if b = true then us else []) ++ ops) = runLent s ops := by
  cases b
  · rfl
  · rw [if_pos rfl, runLent_append, h]; rfl

theorem runCell_loop {α : Type} {c : Cell} {x : Buf} {f : α → List Ev} {as : List α}
    (h : ∀ a ∈ as, runCell c (bufOps x (f a)) = some c) : runCell c (bufOps x (as.map f).flatten) = some c := by
  induction as with
  | nil => rfl
  | cons a as ih =>
    rw [List.map_cons, List.flatten_cons, bufOps_append, runCell_seq (h a (by simp))]
    exact ih fun b hb => h b (by simp [hb])

theorem callerOps_loop {α : Type} {y : CBuf} {f : α → List Ev} (as : List α)
    (h : ∀ a, callerOps y (f a) = []) : callerOps y (as.map f).flatten = [] := by
  induction as with
  | nil => rfl
  | cons a as ih => rw [List.map_cons, List.flatten_cons, callerOps_append, h, ih]; rfl

attribute [own_run] runCell_nil runLent_nil List.cons_append List.nil_append if_true if_false
  Bool.false_eq_true Bool.not_true Bool.not_false List.mem_cons List.not_mem_nil or_false

theorem Heap.ext {h h' : Heap} (hc : ∀ x, h.cell x = h'.cell x) (hl : ∀ y, h.lent y = h'.lent y) : h = h' := by
  cases h; cases h'; simp only [Heap.mk.injEq]; exact ⟨funext hc, funext hl⟩

theorem run_eq_some_iff (h h' : Heap) (l : List Ev) :
    run h l = some h' ↔
      (∀ x, runCell (h.cell x) (bufOps x l) = some (h'.cell x)) ∧
      (∀ y, runLent (h.lent y) (callerOps y l) = some (h'.lent y)) := by
  induction l generalizing h with
  | nil =>
    simp only [run_nil, Option.some.injEq, bufOps_nil, runCell_nil, callerOps_nil, runLent_nil]
    exact ⟨fun e => e ▸ ⟨fun _ => rfl, fun _ => rfl⟩, fun ⟨a, b⟩ => Heap.ext a b⟩
  | cons e es ih =>
    cases e with
    | buf b op =>
      simp only [run_cons, step, bufOps_buf, callerOps_buf]
      cases hop : op.apply (h.cell b) with
      | none =>
        simp only [Option.map_none, Option.bind_none, false_iff, not_and, reduceCtorEq]
        intro hx
        have := hx b
        simp [runCell_cons, hop] at this
      | some c =>
        simp only [Option.map_some, Option.bind_some, ih]
        refine and_congr_left' (forall_congr' fun x => ?_)
        by_cases hbx : b = x
        · subst hbx; simp [runCell_cons, hop]
        · simp [hbx, upd_get_ne _ _ _ _ (Ne.symm hbx)]
    | caller c op =>
      simp only [run_cons, step, bufOps_caller, callerOps_caller]
      cases hop : op.apply (h.lent c) with
      | none =>
        simp only [Option.map_none, Option.bind_none, false_iff, not_and, reduceCtorEq]
        intro _ hy
        have := hy c
        simp [runLent_cons, hop] at this
      | some s =>
        simp only [Option.map_some, Option.bind_some, ih]
        refine and_congr_right' (forall_congr' fun y => ?_)
        by_cases hcy : c = y
        · subst hcy; simp [runLent_cons, hop]
        · simp [hcy, upd_get_ne _ _ _ _ (Ne.symm hcy)]

theorem wellOwned_iff (h : Heap) (l : List Ev) (dl : List Buf) :
    WellOwned h l dl ↔
      (∀ x, runCell (h.cell x) (bufOps x l) = some (if x ∈ dl then ⟨.app, (h.cell x).held⟩ else h.cell x)) ∧
      (∀ y, runLent (h.lent y) (callerOps y l) = some (h.lent y)) := by
  constructor
  · rintro ⟨h', hr, hl, hc⟩
    obtain ⟨a, b⟩ := (run_eq_some_iff _ _ _).mp hr
    exact ⟨fun x => hc x ▸ a x, fun y => hl ▸ b y⟩
  · rintro ⟨a, b⟩
    exact ⟨⟨fun x => if x ∈ dl then ⟨.app, (h.cell x).held⟩ else h.cell x, h.lent⟩,
      (run_eq_some_iff _ _ _).mpr ⟨a, b⟩, rfl, fun _ => rfl⟩

end Own
