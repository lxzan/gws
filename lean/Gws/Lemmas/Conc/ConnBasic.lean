import Gws.Basic
import Gws.Model.Conc.Conn
/-!
# Connection transition system: representation lemmas and the case analysis of one action

`State.push` … `State.addCb` name the record updates that `step` performs (the model writes `{ s with … }`;
`act_cases` identifies the two by `rfl`).  The association list `pcs` behaves like a function `Nat → Pc` when ids
are unique (`State.WF`).  `Trans` (`Conc.Trans`, not the root namespace `Trans` of the translated Go code) has one
constructor per branch of `step … (.act a fault)` and is derived from the model by `act_cases`; everything proved
about one action is proved by `cases` on it.
-/

namespace Conc

def State.push (s : State) (f : Frame) : State := { s with wire := s.wire ++ [f] }
def State.setPartial (s : State) (b : Bool) : State := { s with partialAfter := b }
def State.win (s : State) (a : Nat) : State := { s with closed := true, winner := some a, causeStored := true }
def State.tclose (s : State) : State := { s with tclosed := true }
def State.addCb (s : State) (c : Cb) : State := { s with cbs := s.cbs ++ [c] }

-- every field and `pc`, `lockHeld` of every update, and the fields of `setPc`: all by `rfl`
@[simp] theorem push_closed (s : State) (f : Frame) : (s.push f).closed = s.closed := rfl
@[simp] theorem push_tclosed (s : State) (f : Frame) : (s.push f).tclosed = s.tclosed := rfl
@[simp] theorem push_winner (s : State) (f : Frame) : (s.push f).winner = s.winner := rfl
@[simp] theorem push_causeStored (s : State) (f : Frame) : (s.push f).causeStored = s.causeStored := rfl
@[simp] theorem push_wire (s : State) (f : Frame) : (s.push f).wire = s.wire ++ [f] := rfl
@[simp] theorem push_partialAfter (s : State) (f : Frame) : (s.push f).partialAfter = s.partialAfter := rfl
@[simp] theorem push_pcs (s : State) (f : Frame) : (s.push f).pcs = s.pcs := rfl
@[simp] theorem push_cbs (s : State) (f : Frame) : (s.push f).cbs = s.cbs := rfl
@[simp] theorem push_pc (s : State) (f : Frame) (x : Nat) : (s.push f).pc x = s.pc x := rfl
@[simp] theorem push_lockHeld (s : State) (f : Frame) : (s.push f).lockHeld = s.lockHeld := rfl
@[simp] theorem setPartial_closed (s : State) (b : Bool) : (s.setPartial b).closed = s.closed := rfl
@[simp] theorem setPartial_tclosed (s : State) (b : Bool) : (s.setPartial b).tclosed = s.tclosed := rfl
@[simp] theorem setPartial_winner (s : State) (b : Bool) : (s.setPartial b).winner = s.winner := rfl
@[simp] theorem setPartial_causeStored (s : State) (b : Bool) : (s.setPartial b).causeStored = s.causeStored := rfl
@[simp] theorem setPartial_wire (s : State) (b : Bool) : (s.setPartial b).wire = s.wire := rfl
@[simp] theorem setPartial_partialAfter (s : State) (b : Bool) : (s.setPartial b).partialAfter = b := rfl
@[simp] theorem setPartial_pcs (s : State) (b : Bool) : (s.setPartial b).pcs = s.pcs := rfl
@[simp] theorem setPartial_cbs (s : State) (b : Bool) : (s.setPartial b).cbs = s.cbs := rfl
@[simp] theorem setPartial_pc (s : State) (b : Bool) (x : Nat) : (s.setPartial b).pc x = s.pc x := rfl
@[simp] theorem setPartial_lockHeld (s : State) (b : Bool) : (s.setPartial b).lockHeld = s.lockHeld := rfl
@[simp] theorem win_closed (s : State) (a : Nat) : (s.win a).closed = true := rfl
@[simp] theorem win_tclosed (s : State) (a : Nat) : (s.win a).tclosed = s.tclosed := rfl
@[simp] theorem win_winner (s : State) (a : Nat) : (s.win a).winner = some a := rfl
@[simp] theorem win_causeStored (s : State) (a : Nat) : (s.win a).causeStored = true := rfl
@[simp] theorem win_wire (s : State) (a : Nat) : (s.win a).wire = s.wire := rfl
@[simp] theorem win_partialAfter (s : State) (a : Nat) : (s.win a).partialAfter = s.partialAfter := rfl
@[simp] theorem win_pcs (s : State) (a : Nat) : (s.win a).pcs = s.pcs := rfl
@[simp] theorem win_cbs (s : State) (a : Nat) : (s.win a).cbs = s.cbs := rfl
@[simp] theorem win_pc (s : State) (a : Nat) (x : Nat) : (s.win a).pc x = s.pc x := rfl
@[simp] theorem win_lockHeld (s : State) (a : Nat) : (s.win a).lockHeld = s.lockHeld := rfl
@[simp] theorem tclose_closed (s : State)  : (s.tclose).closed = s.closed := rfl
@[simp] theorem tclose_tclosed (s : State)  : (s.tclose).tclosed = true := rfl
@[simp] theorem tclose_winner (s : State)  : (s.tclose).winner = s.winner := rfl
@[simp] theorem tclose_causeStored (s : State)  : (s.tclose).causeStored = s.causeStored := rfl
@[simp] theorem tclose_wire (s : State)  : (s.tclose).wire = s.wire := rfl
@[simp] theorem tclose_partialAfter (s : State)  : (s.tclose).partialAfter = s.partialAfter := rfl
@[simp] theorem tclose_pcs (s : State)  : (s.tclose).pcs = s.pcs := rfl
@[simp] theorem tclose_cbs (s : State)  : (s.tclose).cbs = s.cbs := rfl
@[simp] theorem tclose_pc (s : State)  (x : Nat) : (s.tclose).pc x = s.pc x := rfl
@[simp] theorem tclose_lockHeld (s : State)  : (s.tclose).lockHeld = s.lockHeld := rfl
@[simp] theorem addCb_closed (s : State) (c : Cb) : (s.addCb c).closed = s.closed := rfl
@[simp] theorem addCb_tclosed (s : State) (c : Cb) : (s.addCb c).tclosed = s.tclosed := rfl
@[simp] theorem addCb_winner (s : State) (c : Cb) : (s.addCb c).winner = s.winner := rfl
@[simp] theorem addCb_causeStored (s : State) (c : Cb) : (s.addCb c).causeStored = s.causeStored := rfl
@[simp] theorem addCb_wire (s : State) (c : Cb) : (s.addCb c).wire = s.wire := rfl
@[simp] theorem addCb_partialAfter (s : State) (c : Cb) : (s.addCb c).partialAfter = s.partialAfter := rfl
@[simp] theorem addCb_pcs (s : State) (c : Cb) : (s.addCb c).pcs = s.pcs := rfl
@[simp] theorem addCb_cbs (s : State) (c : Cb) : (s.addCb c).cbs = s.cbs ++ [c] := rfl
@[simp] theorem addCb_pc (s : State) (c : Cb) (x : Nat) : (s.addCb c).pc x = s.pc x := rfl
@[simp] theorem addCb_lockHeld (s : State) (c : Cb) : (s.addCb c).lockHeld = s.lockHeld := rfl
@[simp] theorem setPc_closed (s : State) (a : Nat) (p : Pc) : (s.setPc a p).closed = s.closed := rfl
@[simp] theorem setPc_tclosed (s : State) (a : Nat) (p : Pc) : (s.setPc a p).tclosed = s.tclosed := rfl
@[simp] theorem setPc_winner (s : State) (a : Nat) (p : Pc) : (s.setPc a p).winner = s.winner := rfl
@[simp] theorem setPc_causeStored (s : State) (a : Nat) (p : Pc) : (s.setPc a p).causeStored = s.causeStored := rfl
@[simp] theorem setPc_wire (s : State) (a : Nat) (p : Pc) : (s.setPc a p).wire = s.wire := rfl
@[simp] theorem setPc_partialAfter (s : State) (a : Nat) (p : Pc) : (s.setPc a p).partialAfter = s.partialAfter := rfl
@[simp] theorem setPc_cbs (s : State) (a : Nat) (p : Pc) : (s.setPc a p).cbs = s.cbs := rfl

@[simp] theorem setPartial_self (s : State) : s.setPartial s.partialAfter = s := rfl

theorem pc_setPc (s : State) (a b : Nat) (p : Pc) :
    (s.setPc a p).pc b = if b = a then p else s.pc b := by
  unfold State.pc State.setPc
  by_cases h : b = a
  · subst h; simp
  · have h' : a ≠ b := fun e => h e.symm
    simp [h, h', List.find?_filter]
    -- left: `find?` with the filter's test `x.1 ≠ a` added to `x.1 = b`, which implies it
    congr 2
    congr 1
    funext x
    by_cases hx : x.1 = b <;> simp [hx, h]

@[simp] theorem pc_setPc_self (s : State) (a : Nat) (p : Pc) : (s.setPc a p).pc a = p := by
  simp [pc_setPc]

theorem pc_setPc_ne (s : State) {a b : Nat} (p : Pc) (h : b ≠ a) : (s.setPc a p).pc b = s.pc b := by
  simp [pc_setPc, h]

theorem pc_of_pcs_eq {s t : State} (h : t.pcs = s.pcs) (b : Nat) : t.pc b = s.pc b := by
  unfold State.pc; rw [h]

/-- the shape `act_cases` delivers -/
theorem pc_after {s t : State} {a : Nat} {p' : Pc} (hp : t.pcs = s.pcs) (b : Nat) :
    (t.setPc a p').pc b = if b = a then p' else s.pc b := by
  rw [pc_setPc, pc_of_pcs_eq hp]

@[simp] theorem pc_init (a : Nat) : State.pc {} a = .idle := rfl

def State.ids (s : State) : List Nat := s.pcs.map (·.1)

/-- representation invariant: every id occurs once, and no entry is `idle` -/
structure State.WF (s : State) : Prop where
  nodup : s.ids.Nodup
  noIdle : ∀ x ∈ s.pcs, x.2 ≠ .idle

theorem mem_of_pc_ne_idle {s : State} {a : Nat} (h : s.pc a ≠ .idle) : (a, s.pc a) ∈ s.pcs := by
  unfold State.pc at *
  cases hf : s.pcs.find? (·.1 == a) with
  | none => simp [hf] at h
  | some x =>
    have h1 : x.1 = a := by simpa using List.find?_some hf
    simpa [← h1] using List.mem_of_find?_eq_some hf

theorem pc_of_mem {s : State} (hwf : s.WF) {a : Nat} {p : Pc} (h : (a, p) ∈ s.pcs) : s.pc a = p := by
  have hn := hwf.nodup
  unfold State.ids at hn
  unfold State.pc
  generalize s.pcs = l at *
  induction l with
  | nil => simp at h
  | cons x l ih =>
    simp only [List.map_cons, List.nodup_cons] at hn
    rcases List.mem_cons.1 h with rfl | h
    · simp
    · have hx : x.1 ≠ a := fun e => hn.1 (e ▸ List.mem_map.2 ⟨(a, p), h, rfl⟩)
      simpa [hx] using ih h hn.2

theorem mem_ids_of_pc {s : State} {a : Nat} (h : s.pc a ≠ .idle) : a ∈ s.ids :=
  List.mem_map.2 ⟨_, mem_of_pc_ne_idle h, rfl⟩

theorem ids_iff {s : State} (a : Nat) : s.pcs.any (·.1 == a) = true ↔ a ∈ s.ids := by
  simp [State.ids]

theorem pc_idle_of_not_mem {s : State} {a : Nat} (h : a ∉ s.ids) : s.pc a = .idle :=
  Classical.byContradiction fun hne => h (mem_ids_of_pc hne)

theorem pc_ne_idle_of_mem {s : State} (hwf : s.WF) {a : Nat} (h : a ∈ s.ids) : s.pc a ≠ .idle := by
  obtain ⟨x, hx, rfl⟩ := List.mem_map.1 h
  rw [pc_of_mem hwf (p := x.2) hx]
  exact hwf.noIdle x hx

theorem lockHeld_of_holder {s : State} {b : Nat} (h : (s.pc b).holdsLock = true) : s.lockHeld = true :=
  List.any_eq_true.2 ⟨_, mem_of_pc_ne_idle (fun e => by rw [e] at h; cases h), h⟩

theorem holder_of_lockHeld {s : State} (hwf : s.WF) (h : s.lockHeld = true) :
    ∃ b, (s.pc b).holdsLock = true := by
  obtain ⟨x, hx, hh⟩ := List.any_eq_true.1 h
  exact ⟨x.1, by rw [pc_of_mem hwf (p := x.2) hx]; exact hh⟩

theorem wf_init : State.WF {} := ⟨by simp [State.ids], by simp⟩

theorem wf_setPc {s : State} (hwf : s.WF) (a : Nat) {p : Pc} (hp : p ≠ .idle) : (s.setPc a p).WF := by
  constructor
  · unfold State.ids State.setPc
    simp only [List.map_cons, List.nodup_cons]
    constructor
    · simp [List.mem_map, List.mem_filter]
    · have := hwf.nodup
      unfold State.ids at this
      exact (List.filter_sublist.map _).nodup this
  · intro x hx
    unfold State.setPc at hx
    simp only [List.mem_cons, List.mem_filter] at hx
    rcases hx with rfl | ⟨hx, _⟩
    · exact hp
    · exact hwf.noIdle x hx

theorem wf_of_pcs {s t : State} (h : t.pcs = s.pcs) (hwf : s.WF) : t.WF :=
  ⟨by unfold State.ids; rw [h]; exact hwf.nodup, by rw [h]; exact hwf.noIdle⟩

theorem ids_setPc_of_mem {s : State} {a : Nat} (p : Pc) (b : Nat) :
    b ∈ (s.setPc a p).ids ↔ b = a ∨ b ∈ s.ids := by
  unfold State.ids State.setPc
  simp only [List.map_cons, List.mem_cons, List.mem_map, List.mem_filter]
  constructor
  · rintro (h | ⟨x, ⟨hx, _⟩, rfl⟩)
    · exact Or.inl h
    · exact Or.inr ⟨x, hx, rfl⟩
  · rintro (h | ⟨x, hx, rfl⟩)
    · exact Or.inl h
    · by_cases e : x.1 = a
      · exact Or.inl e
      · exact Or.inr ⟨x, ⟨hx, by simp [e]⟩, rfl⟩

/-- how a transport write fails: the transport is closed (nothing changes), or the environment
faults it (a partial frame may be left) -/
def FailW (s : State) (fault : Bool) (b : Bool) : Prop :=
  (s.tclosed = true ∧ b = s.partialAfter) ∨ (s.tclosed = false ∧ fault = true ∧ b = true)

/-- `Trans s a fault p t p'`: actor `a` at `p` moves to `p'`, the other fields become those of `t`. -/
inductive Trans (s : State) (a : Nat) (fault : Bool) : Pc → State → Pc → Prop
  | wLockClosed (r : Bool) : s.lockHeld = false → s.closed = true →
      Trans s a fault (.wLock r) s (.cCas (.ret .closed))
  | wLockRej : s.lockHeld = false → s.closed = false →
      Trans s a fault (.wLock true) s (.cCas (.ret .rejected))
  | wLockOk : s.lockHeld = false → s.closed = false →
      Trans s a fault (.wLock false) s .wWrite
  | wWriteOk : s.tclosed = false → fault = false →
      Trans s a fault .wWrite (s.push (.data a 0 true)) (.done .ok)
  | wWriteFail (b : Bool) : FailW s fault b →
      Trans s a fault .wWrite (s.setPartial b) (.cCas (.ret .ioErr))
  | fLock (n : Nat) : s.lockHeld = false →
      Trans s a fault (.fLock n) s (.fCheck 0 n)
  | fClosed (i n : Nat) : s.closed = true →
      Trans s a fault (.fCheck i n) s (.cCas (.ret .closed))
  | fFail (i n : Nat) (b : Bool) : s.closed = false → FailW s fault b →
      Trans s a fault (.fCheck i n) (s.setPartial b) (.cCas (.ret .ioErr))
  | fLast (n : Nat) : s.closed = false → s.tclosed = false → fault = false →
      Trans s a fault (.fCheck n n) (s.push (.data a n true)) (.done .ok)
  | fNext (i n : Nat) : i ≠ n → s.closed = false → s.tclosed = false → fault = false →
      Trans s a fault (.fCheck i n) (s.push (.data a i false)) (.fCheck (i + 1) n)
  | bStartClosed : s.closed = true → Trans s a fault .bStart s (.cCas (.ret .closed))
  | bStartOk : s.closed = false → Trans s a fault .bStart s .bLock
  | bLockClosed : s.lockHeld = false → s.closed = true →
      Trans s a fault .bLock s (.cCas (.ret .closed))
  | bLockOk : s.lockHeld = false → s.closed = false →
      Trans s a fault .bLock s .bWrite
  | bWriteOk : s.tclosed = false → fault = false →
      Trans s a fault .bWrite (s.push (.data a 0 true)) (.done .ok)
  | bWriteFail (b : Bool) : FailW s fault b →
      Trans s a fault .bWrite (s.setPartial b) (.cCas (.ret .ioErr))
  | casLoseOk : s.closed = true → Trans s a fault (.cCas (.ret .ok)) s (.done .closed)
  | casLoseRet (r : Ret) : r ≠ .ok → s.closed = true → Trans s a fault (.cCas (.ret r)) s (.done r)
  | casLoseROC : s.closed = true → Trans s a fault (.cCas .readerOnClose) s .rOnClose
  | casLoseRA : s.closed = true → Trans s a fault (.cCas .readerAgain) s (.cCas .readerOnClose)
  | casWin (k : Cont) : s.closed = false → Trans s a fault (.cCas k) (s.win a) (.kLock k)
  | kLock (k : Cont) : s.lockHeld = false → Trans s a fault (.kLock k) s (.kWrite k)
  | kWriteOk (k : Cont) : s.tclosed = false → fault = false →
      Trans s a fault (.kWrite k) (s.push (.close a)) (.cTclose k)
  | kWriteFailOk (b : Bool) : FailW s fault b →
      Trans s a fault (.kWrite (.ret .ok)) (s.setPartial b) (.cTclose (.ret .ioErr))
  | kWriteFail (k : Cont) (b : Bool) : k ≠ .ret .ok → FailW s fault b →
      Trans s a fault (.kWrite k) (s.setPartial b) (.cTclose k)
  | tcloseRet (r : Ret) : Trans s a fault (.cTclose (.ret r)) s.tclose (.done r)
  | tcloseROC : Trans s a fault (.cTclose .readerOnClose) s.tclose .rOnClose
  | tcloseRA : Trans s a fault (.cTclose .readerAgain) s.tclose (.cCas .readerOnClose)
  | rOpen (sc : List Inbound) : Trans s a fault (.rOpen sc) (s.addCb .opened) (.rLoop sc)
  | rEnd : Trans s a fault (.rLoop []) s (.cCas .readerOnClose)
  | rMsg (sc : List Inbound) : Trans s a fault (.rLoop (.msg :: sc)) (s.addCb .message) (.rLoop sc)
  | rPeerClose (sc : List Inbound) : Trans s a fault (.rLoop (.peerClose :: sc)) s (.cCas .readerAgain)
  | rReadErr (sc : List Inbound) : Trans s a fault (.rLoop (.readErr :: sc)) s (.cCas .readerOnClose)
  | rOnClose : Trans s a fault .rOnClose (s.addCb (.closedCb s.causeStored)) (.done .ok)

theorem tryWrite_cases (s : State) (f : Frame) (fault : Bool) :
    (s.tclosed = false ∧ fault = false ∧ s.tryWrite f fault = (s.push f, true)) ∨
    (∃ b, FailW s fault b ∧ s.tryWrite f fault = (s.setPartial b, false)) := by
  unfold State.tryWrite FailW
  by_cases ht : s.tclosed = true
  · right; exact ⟨s.partialAfter, Or.inl ⟨ht, rfl⟩, by simp [ht]⟩
  · have ht : s.tclosed = false := by simpa using ht
    cases fault
    · left; simp [State.push, ht]
    · right; exact ⟨true, Or.inr ⟨ht, rfl, rfl⟩, by simp [State.setPartial, ht]⟩

theorem Trans.act {s s' t : State} {a : Nat} {fault : Bool} {q p' : Pc} (ht : Trans s a fault q t p')
    (hq : s.pc a = q) (h : some (t.setPc a p') = some s') :
    ∃ t p', s' = t.setPc a p' ∧ t.pcs = s.pcs ∧ Trans s a fault (s.pc a) t p' := by
  cases h
  exact ⟨t, p', rfl, by cases ht <;> rfl, hq ▸ ht⟩

/-- every successful `act` is one of the `Trans` cases.  At `bLock` the generated fact
`Facts.bcClosedCheckUnderLock` (the broadcast closed test is inside the lock region) is unfolded. -/
theorem act_cases {s s' : State} {a : Nat} {fault : Bool} (h : step s (.act a fault) = some s') :
    ∃ t p', s' = t.setPc a p' ∧ t.pcs = s.pcs ∧ Trans s a fault (s.pc a) t p' := by
  simp only [step] at h
  split at h
  · cases h
  · cases h
  · rename_i r hp
    split at h
    · cases h
    · rename_i hl
      have hl : s.lockHeld = false := by simpa using hl
      split at h
      · rename_i hc; exact (Trans.wLockClosed r hl hc).act hp h
      · rename_i hc
        have hc : s.closed = false := by simpa using hc
        cases r
        · exact (Trans.wLockOk hl hc).act hp h
        · exact (Trans.wLockRej hl hc).act hp h
  · rename_i hp
    rcases tryWrite_cases s (.data a 0 true) fault with ⟨h1, h2, e⟩ | ⟨b, hb, e⟩ <;> rw [e] at h
    · exact (Trans.wWriteOk h1 h2).act hp h
    · exact (Trans.wWriteFail b hb).act hp h
  · rename_i n hp
    split at h
    · cases h
    · rename_i hl; exact (Trans.fLock n (by simpa using hl)).act hp h
  · rename_i i n hp
    split at h
    · rename_i hc; exact (Trans.fClosed i n hc).act hp h
    · rename_i hc
      have hc : s.closed = false := by simpa using hc
      rcases tryWrite_cases s (.data a i (i == n)) fault with ⟨h1, h2, e⟩ | ⟨b, hb, e⟩ <;> rw [e] at h
      · by_cases hin : i = n
        · subst hin
          simp only [beq_self_eq_true] at h
          exact (Trans.fLast i hc h1 h2).act hp h
        · rw [beq_false_of_ne hin] at h
          exact (Trans.fNext i n hin hc h1 h2).act hp h
      · exact (Trans.fFail i n b hc hb).act hp h
  · rename_i hp
    split at h
    · rename_i hc; exact (Trans.bStartClosed hc).act hp h
    · rename_i hc; exact (Trans.bStartOk (by simpa using hc)).act hp h
  · rename_i hp
    split at h
    · cases h
    · rename_i hl
      have hl : s.lockHeld = false := by simpa using hl
      split at h
      · rename_i hc; exact (Trans.bLockClosed hl hc.2).act hp h
      · rename_i hc
        exact (Trans.bLockOk hl (by simpa [Facts.bcClosedCheckUnderLock] using hc)).act hp h
  · rename_i hp
    rcases tryWrite_cases s (.data a 0 true) fault with ⟨h1, h2, e⟩ | ⟨b, hb, e⟩ <;> rw [e] at h
    · exact (Trans.bWriteOk h1 h2).act hp h
    · exact (Trans.bWriteFail b hb).act hp h
  · rename_i k hp
    split at h
    · rename_i hc
      cases k with
      | ret r =>
        cases r with
        | ok => exact (Trans.casLoseOk hc).act hp h
        | closed | rejected | ioErr => exact (Trans.casLoseRet _ (by simp) hc).act hp h
      | readerOnClose => exact (Trans.casLoseROC hc).act hp h
      | readerAgain => exact (Trans.casLoseRA hc).act hp h
    · rename_i hc; exact (Trans.casWin k (by simpa using hc)).act hp h
  · rename_i k hp
    split at h
    · cases h
    · rename_i hl; exact (Trans.kLock k (by simpa using hl)).act hp h
  · rename_i k hp
    rcases tryWrite_cases s (.close a) fault with ⟨h1, h2, e⟩ | ⟨b, hb, e⟩ <;> rw [e] at h
    · exact (Trans.kWriteOk k h1 h2).act hp (by simpa using h)
    · by_cases hk : k = .ret .ok
      · subst hk; exact (Trans.kWriteFailOk b hb).act hp h
      · exact (Trans.kWriteFail k b hk hb).act hp (by simpa [hk] using h)
  · rename_i k hp
    cases k with
    | ret r => exact (Trans.tcloseRet r).act hp h
    | readerOnClose => exact Trans.tcloseROC.act hp h
    | readerAgain => exact Trans.tcloseRA.act hp h
  · rename_i sc hp; exact (Trans.rOpen sc).act hp h
  · rename_i hp; exact Trans.rEnd.act hp h
  · rename_i sc hp; exact (Trans.rMsg sc).act hp h
  · rename_i sc hp; exact (Trans.rPeerClose sc).act hp h
  · rename_i sc hp; exact (Trans.rReadErr sc).act hp h
  · rename_i hp; exact Trans.rOnClose.act hp h

theorem Trans.ne_idle {s t : State} {a : Nat} {f : Bool} {q p' : Pc} (ht : Trans s a f q t p') : q ≠ .idle := by
  cases ht <;> simp

theorem Trans.ne_start {s t : State} {a : Nat} {f : Bool} {q p' : Pc} (ht : Trans s a f q t p') :
    p' ≠ .idle ∧ p' ≠ .bStart := by
  cases ht <;> simp

theorem spawn_cases {s s' : State} {a : Nat} {k : Kind} (h : step s (.spawn a k) = some s') :
    s' = s.setPc a (startPc k) ∧ s.pc a = .idle := by
  simp only [step] at h
  split at h
  · rename_i hc
    cases h
    exact ⟨rfl, hc.1⟩
  · cases h

/-- the second half of the guard of `spawn`: ids are never reused -/
theorem spawn_fresh {s s' : State} {a : Nat} {k : Kind} (h : step s (.spawn a k) = some s') : a ∉ s.ids := by
  simp only [step] at h
  split at h
  · rename_i hc
    exact fun hm => hc.2 ((ids_iff a).2 hm)
  · cases h

theorem run_cons (s : State) (x : Action) (xs : List Action) :
    run s (x :: xs) = (step s x).bind fun s' => run s' xs := by
  simp only [run]; cases step s x <;> rfl

theorem run_append (s : State) (xs ys : List Action) :
    run s (xs ++ ys) = (run s xs).bind (fun s' => run s' ys) :=
  optRun_append (fun _ => rfl) run_cons s xs ys

theorem run_snoc {s s1 s2 : State} {xs : List Action} {x : Action}
    (h1 : run s xs = some s1) (h2 : step s1 x = some s2) : run s (xs ++ [x]) = some s2 := by
  rw [run_append, h1]; simp [run, h2]

theorem run_induction {motive : List Action → State → Prop} (s0 : State) (h0 : motive [] s0)
    (hs : ∀ xs s x s', run s0 xs = some s → motive xs s → step s x = some s' → motive (xs ++ [x]) s')
    (xs : List Action) (s : State) (h : run s0 xs = some s) : motive xs s := by
  obtain ⟨pre, e, -, hm⟩ := run_invariant
    (P := fun rest s => ∃ pre, pre ++ rest = xs ∧ run s0 pre = some s ∧ motive pre s) (fun _ => rfl) run_cons
    (fun s x rest s' ⟨pre, e, hr, hm⟩ hx =>
      ⟨pre ++ [x], by rw [← e, List.append_assoc]; rfl, run_snoc hr hx, hs pre s x s' hr hm hx⟩)
    xs s0 s ⟨[], rfl, rfl, h0⟩ h
  rw [List.append_nil] at e
  exact e ▸ hm

theorem wf_step {s s' : State} {x : Action} (hwf : s.WF) (h : step s x = some s') : s'.WF := by
  cases x with
  | spawn a k =>
    obtain ⟨rfl, -⟩ := spawn_cases h
    apply wf_setPc hwf
    cases k <;> simp [startPc]
    split <;> simp
  | act a f =>
    obtain ⟨t, p', rfl, hp, ht⟩ := act_cases h
    exact wf_setPc (wf_of_pcs hp hwf) a ht.ne_start.1

def updK (K : Nat → Option Kind) : Action → Nat → Option Kind
  | .spawn a k => fun b => if b = a then some k else K b
  | .act _ _ => K

/-- the kind of each actor, read off the `spawn` actions of the schedule -/
def kindMap (xs : List Action) : Nat → Option Kind := xs.foldl updK (fun _ => none)

@[simp] theorem kindMap_nil : kindMap [] = fun _ => none := rfl

theorem kindMap_snoc (xs : List Action) (x : Action) : kindMap (xs ++ [x]) = updK (kindMap xs) x := by
  simp [kindMap, List.foldl_append]

theorem kindMap_mem {xs : List Action} {a : Nat} {k : Kind} (h : kindMap xs a = some k) :
    Action.spawn a k ∈ xs := by
  suffices ∀ K0, xs.foldl updK K0 a = some k → K0 a = some k ∨ Action.spawn a k ∈ xs by
    simpa using this _ h
  clear h
  induction xs with
  | nil => intro K0 h; exact Or.inl h
  | cons x xs ih =>
    intro K0 h
    simp only [List.foldl_cons] at h
    rcases ih _ h with h1 | h1
    · cases x with
      | spawn b k' =>
        simp only [updK] at h1
        split at h1
        · rename_i e; subst e; cases h1; exact Or.inr (by simp)
        · exact Or.inl h1
      | act b f => exact Or.inl h1
    · exact Or.inr (List.mem_cons_of_mem _ h1)

end Conc
