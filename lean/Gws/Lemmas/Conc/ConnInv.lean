import Gws.Lemmas.Conc.ConnBasic
/-!
# The close-protocol invariant `CInv` of the connection transition system

State-only clauses (I1–I5 of the design): mutual exclusion of `c.mu`, the CAS winner, where the
Close frame can be, and that nothing follows it.

An action moves the acting actor and changes at most one shared component, under a guard that can be
read off the actor's program counter: the `Trans.*` lemmas say so once, and `cinv_act` derives each
clause from the few of these it needs.
-/

namespace Conc

def Frame.owner : Frame → Nat
  | .data o _ _ => o
  | .close o => o

/-- between winning the CAS and `conn.Close()` -/
def Pc.inCloseSeq : Pc → Bool
  | .kLock _ | .kWrite _ | .cTclose _ => true
  | _ => false

/-- CAS won, Close frame not yet handed to the transport -/
def Pc.preClose : Pc → Bool
  | .kLock _ | .kWrite _ => true
  | _ => false

/-- holding `c.mu` with the closed test passed, before the transport write -/
def Pc.passedCheck : Pc → Bool
  | .wWrite | .bWrite => true
  | _ => false

/-- where the CAS winner can be once its close sequence is over -/
def Pc.finishedClose : Pc → Bool
  | .done _ | .rOnClose | .cCas .readerOnClose => true
  | _ => false

def NoClose (w : List Frame) : Prop := ∀ f ∈ w, f.isClose = false

theorem noClose_nil : NoClose [] := by simp [NoClose]

theorem noClose_append {w : List Frame} {f : Frame} : NoClose (w ++ [f]) ↔ NoClose w ∧ f.isClose = false := by
  rw [NoClose, List.forall_mem_append, List.forall_mem_singleton]
  rfl

theorem noClose_dropLast {w : List Frame} (h : NoClose w) : NoClose w.dropLast :=
  fun f hf => h f (List.dropLast_subset w hf)

/-- The property theorems of C06 and C09 quote `mutex`, `closed_winner`, `cause`, `tclosed_closed`,
`close_owner`, `close_last`, `cb_cause` and (for the measure) `fcheck_le`; the other clauses make these inductive or
serve one later proof. -/
structure CInv (s : State) : Prop where
  /-- I1: at most one actor is inside a `c.mu` critical section -/
  mutex : ∀ a b, (s.pc a).holdsLock = true → (s.pc b).holdsLock = true → a = b
  /-- I2 -/
  closed_winner : s.closed = s.winner.isSome
  /-- holds because the model stores the cause in the action that wins the CAS (in gws `c.ev.Store` comes a
  few statements after the CAS); `cb_cause` rests on it -/
  cause : s.causeStored = s.closed
  tclosed_closed : s.tclosed = true → s.closed = true
  closeSeq_winner : ∀ b, (s.pc b).inCloseSeq = true → s.winner = some b
  /-- for `teardown` and `winv_step` (a fresh actor is not the winner); no other clause needs it -/
  winner_pc : ∀ w, s.winner = some w →
    (s.pc w).inCloseSeq = true ∨ (s.tclosed = true ∧ (s.pc w).finishedClose = true)
  /-- I3: a Close frame on the wire was written by the winner, which is past `kWrite` -/
  close_owner : ∀ f ∈ s.wire, f.isClose = true → s.winner = some f.owner ∧ (s.pc f.owner).preClose = false
  /-- I4; makes `close_last` inductive -/
  passed_noClose : ∀ b, (s.pc b).passedCheck = true → NoClose s.wire
  /-- I5: only the last frame can be a Close frame -/
  close_last : NoClose s.wire.dropLast
  /-- for the measure (`steps_decreases`) and for `DInv` (`Trans.dclause_own`) -/
  fcheck_le : ∀ b i n, s.pc b = .fCheck i n → i ≤ n
  /-- with the broadcast closed test inside the lock region; no other clause needs it -/
  no_bStart : ∀ b, s.pc b ≠ .bStart
  /-- makes `cb_cause` inductive -/
  onclose_closed : ∀ b, s.pc b = .rOnClose → s.closed = true
  cb_cause : ∀ c, Cb.closedCb c ∈ s.cbs → c = true
  /-- for `lateWriter_spawn`: a fresh actor owns no frame -/
  owner_spawned : ∀ f ∈ s.wire, s.pc f.owner ≠ .idle

theorem passedCheck_holdsLock {p : Pc} (h : p.passedCheck = true) : p.holdsLock = true := by
  cases p <;> simp_all [Pc.passedCheck, Pc.holdsLock]

theorem cinv_init : CInv {} := by
  constructor <;> simp [Pc.holdsLock, Pc.inCloseSeq, Pc.passedCheck, NoClose]

theorem startPc_cases (k : Kind) :
    (∃ r, startPc k = .wLock r) ∨ (∃ n, startPc k = .fLock n) ∨ startPc k = .bLock ∨
    startPc k = .cCas (.ret .ok) ∨ ∃ sc, startPc k = .rOpen sc := by
  cases k <;> simp [startPc, Facts.bcClosedCheckUnderLock]

variable {s t s' : State} {a : Nat} {f : Bool} {q p' : Pc}

theorem Trans.lock (ht : Trans s a f q t p') (h : p'.holdsLock = true) :
    q.holdsLock = true ∨ s.lockHeld = false := by
  cases ht <;> simp_all [Pc.holdsLock]

theorem Trans.flags (ht : Trans s a f q t p') :
    (t.closed = s.closed ∧ t.winner = s.winner ∧ t.causeStored = s.causeStored) ∨
    (∃ k, q = .cCas k ∧ p' = .kLock k ∧ s.closed = false ∧
      t.closed = true ∧ t.winner = some a ∧ t.causeStored = true) := by
  cases ht with
  | casWin k hc => exact Or.inr ⟨k, rfl, rfl, hc, rfl, rfl, rfl⟩
  | _ => exact Or.inl ⟨rfl, rfl, rfl⟩

theorem Trans.tclosed (ht : Trans s a f q t p') :
    t.tclosed = s.tclosed ∨ (q.inCloseSeq = true ∧ t.tclosed = true ∧ p'.finishedClose = true) := by
  cases ht <;> simp_all [Pc.inCloseSeq, Pc.finishedClose]

theorem Trans.wire (ht : Trans s a f q t p') :
    t.wire = s.wire ∨ ∃ g, t.wire = s.wire ++ [g] ∧ g.owner = a ∧ q.holdsLock = true ∧
      (g.isClose = true → q.preClose = true ∧ p'.preClose = false) ∧
      (g.isClose = false → q.passedCheck = true ∨ s.closed = false) := by
  cases ht with
  | wWriteOk _ _ | bWriteOk _ _ =>
    exact Or.inr ⟨_, rfl, rfl, rfl, nofun, fun _ => Or.inl rfl⟩
  | fLast _ hc _ _ | fNext _ _ _ hc _ _ =>
    exact Or.inr ⟨_, rfl, rfl, rfl, nofun, fun _ => Or.inr hc⟩
  | kWriteOk _ _ _ => exact Or.inr ⟨_, rfl, rfl, rfl, fun _ => ⟨rfl, rfl⟩, nofun⟩
  | _ => exact Or.inl rfl

theorem Trans.cbs (ht : Trans s a f q t p') :
    t.cbs = s.cbs ∨ ∃ c, t.cbs = s.cbs ++ [c] ∧ ∀ x, c = .closedCb x → q = .rOnClose ∧ x = s.causeStored := by
  cases ht with
  | rOpen _ | rMsg _ => exact Or.inr ⟨_, rfl, nofun⟩
  | rOnClose => exact Or.inr ⟨_, rfl, fun x e => by cases e; exact ⟨rfl, rfl⟩⟩
  | _ => exact Or.inl rfl

theorem Trans.closeSeq_of (ht : Trans s a f q t p') (h : p'.inCloseSeq = true) :
    q.inCloseSeq = true ∨ t.winner = some a := by
  cases ht <;> simp_all [Pc.inCloseSeq]

theorem Trans.closeSeq_next (ht : Trans s a f q t p') (h : q.inCloseSeq = true) :
    p'.inCloseSeq = true ∨ (t.tclosed = true ∧ p'.finishedClose = true) := by
  cases ht <;> simp_all [Pc.inCloseSeq, Pc.finishedClose]

theorem Trans.finished_next (ht : Trans s a f q t p') (h : q.finishedClose = true) (hc : s.closed = true) :
    p'.finishedClose = true := by
  cases ht <;> simp_all [Pc.finishedClose]

theorem Trans.preClose_of (ht : Trans s a f q t p') (h : p'.preClose = true) :
    q.preClose = true ∨ s.closed = false := by
  cases ht <;> simp_all [Pc.preClose]

theorem Trans.passedCheck_of (ht : Trans s a f q t p') (h : p'.passedCheck = true) :
    s.closed = false ∧ t.wire = s.wire := by
  cases ht <;> simp_all [Pc.passedCheck]

theorem Trans.fCheck_of (ht : Trans s a f q t p') {i n : Nat} (h : p' = .fCheck i n) :
    i = 0 ∨ ∃ j, q = .fCheck j n ∧ j ≠ n ∧ i = j + 1 := by
  cases ht <;> simp_all

theorem Trans.rOnClose_of (ht : Trans s a f q t p') (h : p' = .rOnClose) :
    s.closed = true ∨ q.inCloseSeq = true := by
  cases ht <;> simp_all [Pc.inCloseSeq]

theorem preClose_inCloseSeq {p : Pc} (h : p.preClose = true) : p.inCloseSeq = true := by
  cases p <;> simp_all [Pc.preClose, Pc.inCloseSeq]

theorem CInv.winner_none (hi : CInv s) (h : s.closed = false) : s.winner = none := by
  have := hi.closed_winner
  rw [h] at this
  cases hw : s.winner with
  | none => rfl
  | some w => rw [hw] at this; cases this

theorem CInv.closed_of_closeSeq (hi : CInv s) {b : Nat} (h : (s.pc b).inCloseSeq = true) :
    s.closed = true := by
  rw [hi.closed_winner, hi.closeSeq_winner b h]; rfl

theorem CInv.noClose_of_open (hi : CInv s) (h : s.closed = false) : NoClose s.wire := by
  intro f hf
  cases hc : f.isClose with
  | false => rfl
  | true =>
    have := (hi.close_owner f hf hc).1
    have h2 := hi.closed_winner
    rw [this, h] at h2
    cases h2

/-- whoever is about to write a frame (the cases of `Trans.wire`) sees no Close frame on the wire -/
theorem CInv.noClose_of_writer (hi : CInv s) (b : Nat)
    (h : (s.pc b).passedCheck = true ∨ s.closed = false ∨ (s.pc b).preClose = true) : NoClose s.wire := by
  rcases h with h | h | h
  · exact hi.passed_noClose b h
  · exact hi.noClose_of_open h
  · intro g hg
    cases hc : g.isClose with
    | false => rfl
    | true =>
      obtain ⟨h1, h2⟩ := hi.close_owner g hg hc
      rw [hi.closeSeq_winner b (preClose_inCloseSeq h)] at h1
      cases h1
      rw [h] at h2; cases h2

attribute [local grind =] setPc_closed setPc_tclosed setPc_winner setPc_causeStored setPc_wire setPc_cbs

theorem cinv_spawn {k : Kind} (hi : CInv s) (h : step s (.spawn a k) = some s') : CInv s' := by
  obtain ⟨rfl, hidle⟩ := spawn_cases h
  have hpc := pc_setPc s a
  have hk := startPc_cases k
  exact {
    mutex := by have := hi.mutex; grind [Pc.holdsLock]
    closed_winner := hi.closed_winner
    cause := hi.cause
    tclosed_closed := hi.tclosed_closed
    closeSeq_winner := by have := hi.closeSeq_winner; grind [Pc.inCloseSeq]
    winner_pc := by have := hi.winner_pc; grind [Pc.inCloseSeq, Pc.finishedClose]
    close_owner := by have := hi.close_owner; grind [Pc.preClose]
    passed_noClose := by have := hi.passed_noClose; grind [Pc.passedCheck]
    close_last := hi.close_last
    fcheck_le := by have := hi.fcheck_le; grind
    no_bStart := by have := hi.no_bStart; grind
    onclose_closed := by have := hi.onclose_closed; grind
    cb_cause := hi.cb_cause
    owner_spawned := by have := hi.owner_spawned; grind }

theorem cinv_act (hi : CInv s) (h : step s (.act a f) = some s') : CInv s' := by
  obtain ⟨t, p', rfl, hp, ht⟩ := act_cases h
  have hpc := pc_after (a := a) (p' := p') hp
  have flags := ht.flags
  have wire := ht.wire
  exact {
    mutex := by
      have := ht.lock
      have := @lockHeld_of_holder s
      have := hi.mutex
      grind
    closed_winner := by
      rcases flags with ⟨h1, h2, -⟩ | ⟨k, -, -, -, h1, h2, -⟩
      · rw [setPc_closed, setPc_winner, h1, h2]; exact hi.closed_winner
      · rw [setPc_closed, setPc_winner, h1, h2]; rfl
    cause := by
      rcases flags with ⟨h1, -, h3⟩ | ⟨k, -, -, -, h1, -, h3⟩
      · rw [setPc_closed, setPc_causeStored, h1, h3]; exact hi.cause
      · rw [setPc_closed, setPc_causeStored, h1, h3]
    tclosed_closed := by
      have := ht.tclosed
      have := hi.tclosed_closed
      have := @CInv.closed_of_closeSeq s hi a
      grind
    closeSeq_winner := by
      have := ht.closeSeq_of
      have := hi.closeSeq_winner
      have := hi.winner_none
      grind
    winner_pc := by
      have := ht.closeSeq_next
      have := ht.finished_next
      have := ht.tclosed
      have := hi.winner_pc
      have := hi.closed_winner
      grind [Pc.inCloseSeq]
    close_owner := by
      have := ht.preClose_of
      have := hi.close_owner
      have := hi.closeSeq_winner a
      have := hi.closed_winner
      have := @preClose_inCloseSeq (s.pc a)
      grind
    passed_noClose := by
      have := ht.passedCheck_of
      have := hi.passed_noClose
      have := hi.noClose_of_open
      have := hi.mutex
      have := fun x => @passedCheck_holdsLock (s.pc x)
      grind
    close_last := by
      have := hi.close_last
      have := hi.noClose_of_writer a
      grind [List.dropLast_concat]
    fcheck_le := by
      have := @Trans.fCheck_of _ _ _ _ _ _ ht
      have := hi.fcheck_le
      grind
    no_bStart := by
      intro b
      rw [hpc]
      split
      · exact ht.ne_start.2
      · exact hi.no_bStart b
    onclose_closed := by
      have := ht.rOnClose_of
      have := hi.onclose_closed
      have := @CInv.closed_of_closeSeq s hi a
      grind
    cb_cause := by
      have := ht.cbs
      have := hi.cb_cause
      have := hi.cause
      have := hi.onclose_closed a
      grind
    owner_spawned := by
      have := ht.ne_start
      have := hi.owner_spawned
      grind }

theorem cinv_step {x : Action} (hi : CInv s) (h : step s x = some s') : CInv s' := by
  cases x with
  | spawn a k => exact cinv_spawn hi h
  | act a f => exact cinv_act hi h

end Conc
