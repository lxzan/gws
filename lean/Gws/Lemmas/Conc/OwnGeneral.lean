import Gws.Lemmas.Conc.Own
/-! What the general theorems of C14 rest on: an interleaving seen from one location is an interleaving of
the two projections; a cell owned by the application stays so until `appClose`; a payload that is not
lent is not looked at. -/
namespace Own

theorem Interleave.filterMap {α β : Type} (f : α → Option β) {l1 l2 l : List α} (hi : Interleave l1 l2 l) :
    Interleave (l1.filterMap f) (l2.filterMap f) (l.filterMap f) := by
  induction hi with
  | nil => exact .nil
  | left e _ ih => simp only [List.filterMap_cons]; split; exact ih; exact .left _ ih
  | right e _ ih => simp only [List.filterMap_cons]; split; exact ih; exact .right _ ih

theorem Interleave.eq_left {α : Type} {l1 l : List α} (hi : Interleave l1 [] l) : l = l1 := by
  generalize h2 : ([] : List α) = l2 at hi
  induction hi with
  | nil => rfl
  | left e _ ih => rw [ih h2]
  | right e _ ih => cases h2

theorem Interleave.symm {α : Type} {l1 l2 l : List α} (hi : Interleave l1 l2 l) : Interleave l2 l1 l := by
  induction hi with
  | nil => exact .nil
  | left e _ ih => exact .right e ih
  | right e _ ih => exact .left e ih

theorem Interleave.mem_iff {α : Type} {l1 l2 l : List α} (hi : Interleave l1 l2 l) (e : α) :
    e ∈ l ↔ e ∈ l1 ∨ e ∈ l2 := by
  induction hi with
  | nil => simp
  | left e' _ ih => rw [List.mem_cons, List.mem_cons, ih, or_assoc]
  | right e' _ ih => rw [List.mem_cons, List.mem_cons, ih, or_left_comm]

theorem Interleave.at_buf {l1 l2 l : List Ev} (hi : Interleave l1 l2 l) (x : Buf) :
    Interleave (bufOps x l1) (bufOps x l2) (bufOps x l) := by
  simp only [bufOps_eq_filterMap]; exact hi.filterMap _

theorem Interleave.at_caller {l1 l2 l : List Ev} (hi : Interleave l1 l2 l) (y : CBuf) :
    Interleave (callerOps y l1) (callerOps y l2) (callerOps y l) := by
  simp only [callerOps_eq_filterMap]; exact hi.filterMap _

theorem Interleave.bufOps_left {l1 l2 l : List Ev} (hi : Interleave l1 l2 l) (x : Buf) (h2 : bufOps x l2 = []) :
    bufOps x l = bufOps x l1 := (h2 ▸ hi.at_buf x).eq_left

theorem Interleave.callerOps_left {l1 l2 l : List Ev} (hi : Interleave l1 l2 l) (y : CBuf) (h2 : callerOps y l2 = []) :
    callerOps y l = callerOps y l1 := (h2 ▸ hi.at_caller y).eq_left

theorem mem_bufOps_iff {x : Buf} {op : BOp} {l : List Ev} : op ∈ bufOps x l ↔ Ev.buf x op ∈ l := by
  rw [bufOps_eq_filterMap, List.mem_filterMap]
  constructor
  · rintro ⟨e, he, h⟩
    cases e with
    | buf b o => simp only [Ev.bufAt] at h; split at h <;> simp_all
    | caller c o => simp [Ev.bufAt] at h
  · exact fun h => ⟨_, h, by simp [Ev.bufAt]⟩

theorem mem_callerOps_iff {y : CBuf} {op : COp} {l : List Ev} : op ∈ callerOps y l ↔ Ev.caller y op ∈ l := by
  rw [callerOps_eq_filterMap, List.mem_filterMap]
  constructor
  · rintro ⟨e, he, h⟩
    cases e with
    | buf b o => simp [Ev.callerAt] at h
    | caller c o => simp only [Ev.callerAt] at h; split at h <;> simp_all
  · exact fun h => ⟨_, h, by simp [Ev.callerAt]⟩

theorem DisjointLocs.cases_buf {l1 l2 : List Ev} (hd : DisjointLocs l1 l2) (x : Buf) :
    bufOps x l1 = [] ∨ bufOps x l2 = [] := by
  by_cases h1 : bufOps x l1 = []
  · exact Or.inl h1
  · obtain ⟨op, hop⟩ := List.exists_mem_of_ne_nil _ h1
    exact Or.inr (List.eq_nil_iff_forall_not_mem.mpr fun _ h2 =>
      hd _ (mem_bufOps_iff.mp hop) _ (mem_bufOps_iff.mp h2) rfl)

theorem DisjointLocs.cases_caller {l1 l2 : List Ev} (hd : DisjointLocs l1 l2) (y : CBuf) :
    callerOps y l1 = [] ∨ callerOps y l2 = [] := by
  by_cases h1 : callerOps y l1 = []
  · exact Or.inl h1
  · obtain ⟨op, hop⟩ := List.exists_mem_of_ne_nil _ h1
    exact Or.inr (List.eq_nil_iff_forall_not_mem.mpr fun _ h2 =>
      hd _ (mem_callerOps_iff.mp hop) _ (mem_callerOps_iff.mp h2) rfl)

theorem InterleaveN.mem {ls : List (List Ev)} {l : List Ev} (hi : InterleaveN ls l) (e : Ev) (he : e ∈ l) :
    ∃ l0 ∈ ls, e ∈ l0 := by
  induction hi with
  | nil => simp at he
  | cons _ hi2 ih =>
    rcases (hi2.mem_iff e).mp he with h | h
    · exact ⟨_, by simp, h⟩
    · obtain ⟨l0, hl0, hm⟩ := ih h
      exact ⟨l0, by simp [hl0], hm⟩

theorem apply_app {c c1 : Cell} {op : BOp} (hc : c.own = .app) (hop : op.apply c = some c1) (hne : op ≠ .appClose) :
    c1.own = .app ∧ op.libTouch = false := by
  cases op with
  | appClose => exact absurd rfl hne
  | appRead | lock p | unlock p | tryLockFail p =>
    simp only [BOp.apply] at hop; split at hop <;> cases hop <;> exact ⟨hc, rfl⟩
  | get p | alloc p | put p | drop p | read p | write p | handoff p | guard p =>
    simp [BOp.apply, Cell.usable, hc] at hop

theorem runCell_app {c c' : Cell} {ops : List BOp} (hc : c.own = .app) (hn : BOp.appClose ∉ ops)
    (hr : runCell c ops = some c') : c'.own = .app ∧ ∀ op ∈ ops, op.libTouch = false := by
  induction ops generalizing c with
  | nil => cases hr; exact ⟨hc, by simp⟩
  | cons op ops ih =>
    simp only [runCell_cons, Option.bind_eq_some_iff] at hr
    obtain ⟨c1, hop, hr⟩ := hr
    rw [List.mem_cons, not_or] at hn
    obtain ⟨h0, h1⟩ := apply_app hc hop (Ne.symm hn.1)
    obtain ⟨h2, h3⟩ := ih h0 hn.2 hr
    exact ⟨h2, List.forall_mem_cons.mpr ⟨h1, h3⟩⟩

theorem runLent_no_write {s s' : Option Pid} {ops : List COp} (hr : runLent s ops = some s') :
    ∀ p, COp.write p ∉ ops := by
  induction ops generalizing s with
  | nil => simp
  | cons op ops ih =>
    simp only [runLent_cons, Option.bind_eq_some_iff] at hr
    obtain ⟨s1, hop, hr⟩ := hr
    intro p hm
    rcases List.mem_cons.mp hm with rfl | hm'
    · simp [COp.apply] at hop
    · exact ih hr p hm'

theorem runLent_unlent {s' : Option Pid} {ops : List COp} (hn : ∀ p, COp.lend p ∉ ops)
    (hr : runLent none ops = some s') : ops = [] := by
  cases ops with
  | nil => rfl
  | cons op ops =>
    simp only [runLent_cons] at hr
    cases op with
    | lend p => exact absurd (by simp) (hn p)
    | ret p | read p | write p => simp [COp.apply] at hr

/-- **The caller's payload is not read before the call has started** (nor after it has returned:
`caller_payload_unread_after_return`). -/
theorem caller_unread_before_lend {h h' : Heap} {pre post : List Ev} {c : CBuf}
    (hr : run h (pre ++ post) = some h') (h0 : h.lent c = none) (hn : ∀ q, Ev.callerLend c q ∉ pre) :
    ∀ op, Ev.caller c op ∉ pre := by
  have hb := ((run_eq_some_iff _ _ _).mp hr).2 c
  simp only [callerOps_append, runLent_append, h0, Option.bind_eq_some_iff] at hb
  obtain ⟨c1, h1, -⟩ := hb
  have := runLent_unlent (fun q hm => hn q (mem_callerOps_iff.mp hm)) h1
  intro op hm
  have := this ▸ mem_callerOps_iff.mpr hm
  simp at this

end Own
