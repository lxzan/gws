import Gws.Lemmas.Conc.OwnPaths
/-! Interleavings of paths that share mutex-guarded locations (same connection: `c.mu` and the window;
same deflater: its scratch and its writer): no interleaving ever reaches a violation — the only event
that may fail to be enabled is a `lock` of a held mutex, i.e. a schedule the mutex rules out. -/
namespace Own

/-- `Outcome` and `runB` at one cell -/
inductive COut where
  | ok (c : Cell)
  | blocked
  | violation

def runCellB (c : Cell) : List BOp → COut
  | [] => .ok c
  | op :: ops =>
    match op.apply c with
    | some c' => runCellB c' ops
    | none => match op with
      | .lock _ => .blocked
      | _ => .violation

theorem runCellB_append {c c' : Cell} {l1 : List BOp} (h : runCell c l1 = some c') (l2 : List BOp) :
    runCellB c (l1 ++ l2) = runCellB c' l2 := by
  induction l1 generalizing c with
  | nil => cases h; rfl
  | cons op ops ih =>
    simp only [runCell_cons, Option.bind_eq_some_iff] at h
    obtain ⟨c1, hop, h⟩ := h
    simp only [List.cons_append, runCellB, hop]; exact ih h

theorem runCellB_of_runCell {c c' : Cell} {ops : List BOp} (h : runCell c ops = some c') : runCellB c ops = .ok c' := by
  rw [← List.append_nil ops, runCellB_append h]; rfl

theorem runB_violation_at {h : Heap} {l : List Ev} (hv : runB h l = .violation) :
    ∃ pre e post h1, l = pre ++ e :: post ∧ run h pre = some h1 ∧ step h1 e = none ∧ e.isLock = false := by
  induction l generalizing h with
  | nil => cases hv
  | cons e es ih =>
    simp only [runB] at hv
    split at hv
    · rename_i h' hs
      obtain ⟨pre, e', post, h1, rfl, hr, hn⟩ := ih hv
      exact ⟨e :: pre, e', post, h1, rfl, by rw [run_cons, hs]; exact hr, hn⟩
    · rename_i hs
      refine ⟨[], e, es, h, rfl, rfl, hs, ?_⟩
      split at hv
      · cases hv
      · exact Bool.eq_false_iff.mpr ‹_›

theorem runB_violation {h : Heap} {l : List Ev} (hv : runB h l = .violation) :
    (∃ x, runCellB (h.cell x) (bufOps x l) = .violation) ∨ (∃ y, runLent (h.lent y) (callerOps y l) = none) := by
  obtain ⟨pre, e, post, h1, rfl, hr, hn, hl⟩ := runB_violation_at hv
  obtain ⟨a, b⟩ := (run_eq_some_iff _ _ _).mp hr
  cases e with
  | buf x op =>
    have hop : op.apply (h1.cell x) = none := by simpa [step] using hn
    refine Or.inl ⟨x, ?_⟩
    rw [bufOps_append, runCellB_append (a x), bufOps_self]
    simp only [runCellB, hop]
    -- `op` is no `lock` (`hl`), so its failure counts as a violation
    cases op <;> first | rfl | cases hl
  | caller y op =>
    have hop : op.apply (h1.lent y) = none := by simpa [step] using hn
    refine Or.inr ⟨y, ?_⟩
    rw [callerOps_append, runLent_append, b y, callerOps_self, Option.bind_some, runLent_cons, hop]; rfl

/-- the rest of a critical section of `p`, then further sections -/
def Inside (o : Owner) (p : Pid) (ops : List BOp) : Prop :=
  ∃ body rest, ops = body ++ .unlock p :: rest ∧
    (∀ op ∈ body, (op = .read p ∨ op = .write p) ∧ (o = .guarded ∨ o = .lib p)) ∧ Bracketed o rest

/-- who is where: nobody holds the mutex and both are between sections, or one of them is inside a section -/
def MState (o : Owner) (c : Cell) (r1 r2 : List BOp) : Prop :=
  (c.held = none ∧ Bracketed o r1 ∧ Bracketed o r2) ∨
  (∃ p, c.held = some p ∧ Inside o p r1 ∧ Bracketed o r2) ∨
  (∃ p, c.held = some p ∧ Bracketed o r1 ∧ Inside o p r2)

theorem MState.symm {o : Owner} {c : Cell} {r1 r2 : List BOp} (h : MState o c r1 r2) : MState o c r2 r1 := by
  rcases h with ⟨a, b, d⟩ | ⟨p, a, b, d⟩ | ⟨p, a, b, d⟩
  · exact Or.inl ⟨a, d, b⟩
  · exact Or.inr (Or.inr ⟨p, a, d, b⟩)
  · exact Or.inr (Or.inl ⟨p, a, d, b⟩)

theorem mstate_step {o : Owner} {c : Cell} {e : BOp} {r1 r2 : List BOp} (hc : c.own = o)
    (hst : MState o c (e :: r1) r2) :
    (∃ c', e.apply c = some c' ∧ c'.own = o ∧ MState o c' r1 r2) ∨ (e.apply c = none ∧ ∃ q, e = .lock q) := by
  rcases hst with ⟨hh, hb1, hb2⟩ | ⟨p, hh, hin, hb2⟩ | ⟨p, hh, hb1, hin⟩
  · cases hb1 with
    | sect p body rest hbody hrest =>
      left
      refine ⟨{ c with held := some p }, by simp [BOp.apply, hh], hc, Or.inr (Or.inl ⟨p, rfl, ⟨body, rest, rfl, hbody, hrest⟩, hb2⟩)⟩
  · obtain ⟨body, rest, heq, hbody, hrest⟩ := hin
    cases body with
    | nil =>
      simp only [List.nil_append, List.cons.injEq] at heq
      obtain ⟨rfl, rfl⟩ := heq
      left
      exact ⟨{ c with held := none }, by simp [BOp.apply, hh], hc, Or.inl ⟨rfl, hrest, hb2⟩⟩
    | cons b0 body' =>
      simp only [List.cons_append, List.cons.injEq] at heq
      obtain ⟨rfl, rfl⟩ := heq
      left
      obtain ⟨hop, huse⟩ := hbody e (by simp)
      have husable : c.usable p := by
        unfold Cell.usable
        rcases huse with hu | hu
        · exact Or.inr ⟨hc.trans hu, hh⟩
        · exact Or.inl (hc.trans hu)
      refine ⟨c, ?_, hc, Or.inr (Or.inl ⟨p, hh, ⟨body', rest, rfl, fun op hop' => hbody op (by simp [hop']), hrest⟩, hb2⟩)⟩
      rcases hop with rfl | rfl <;> simp [BOp.apply, husable]
  · cases hb1 with
    | sect q body rest hbody hrest =>
      right
      exact ⟨by simp [BOp.apply, hh], q, rfl⟩

theorem bracketed_interleave {o : Owner} {r1 r2 ops : List BOp} (hi : Interleave r1 r2 ops) (c : Cell)
    (hc : c.own = o) (hst : MState o c r1 r2) : runCellB c ops ≠ .violation := by
  induction hi generalizing c with
  | nil => simp [runCellB]
  | left e _ ih =>
    rcases mstate_step hc hst with ⟨c', h1, h2, h3⟩ | ⟨h1, q, rfl⟩
    · simp only [runCellB, h1]; exact ih c' h2 h3
    · simp [runCellB, h1]
  | right e _ ih =>
    rcases mstate_step hc hst.symm with ⟨c', h1, h2, h3⟩ | ⟨h1, q, rfl⟩
    · simp only [runCellB, h1]; exact ih c' h2 h3.symm
    · simp [runCellB, h1]

theorem writeFrame_mu_bracketed (compressed window client : Bool) (p : Pid) (c : CBuf) (m z f : Buf) (o : Owner)
    (hmz : m ≠ z) (hmf : m ≠ f) (hw : window = true → o = .guarded) :
    Bracketed o (bufOps m (writeFrame compressed window client p c m z f)) := by
  rw [writeFrame_at_mu _ _ _ _ _ _ _ _ hmz hmf]
  refine .sect p _ [] (fun op hop => ?_) .nil
  cases window
  · cases compressed <;> simp at hop
  · cases compressed <;> simp at hop <;> simp [hop, hw rfl]

theorem writeFrame_writer_bracketed (compressed window client : Bool) (p : Pid) (c : CBuf) (m z f : Buf)
    (hmz : m ≠ z) (hzf : z ≠ f) :
    Bracketed .guarded (bufOps z (writeFrame compressed window client p c m z f)) := by
  rw [writeFrame_at_writer _ _ _ _ _ _ _ _ hmz hzf]
  cases compressed
  · exact .nil
  · exact .sect p [.write p] [] (by simp) .nil

theorem readSingle_bracketed (masked closeNow : Bool) (p : Pid) (a b s : Buf) (d : Option Buf)
    (has : a ≠ s) (hbs : b ≠ s) (hds : d ≠ some s) :
    Bracketed .guarded (bufOps s (readSingle true masked closeNow p a b s d)) := by
  rw [readSingle_at_scratch _ _ _ _ _ _ _ _ has hbs hds, if_pos rfl]
  exact .sect p [.write p, .read p] [] (by simp) .nil

end Own
