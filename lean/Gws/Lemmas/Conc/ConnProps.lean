import Gws.Lemmas.Conc.ConnData
import Gws.Lemmas.Conc.ConnCb
import Gws.Lemmas.Conc.ConnLive
/-!
# All invariants together (`Inv`, inductive: `inv_step`), and their consequences in the form used by
the property files C06Conc / C07 / C08 / C09
-/

namespace Conc

/-- all invariants of the connection transition system, for the state reached by schedule `xs` -/
structure Inv (xs : List Action) (s : State) : Prop where
  /-- representation: actor ids in `pcs` are unique -/
  wf : s.WF
  /-- I1–I5: mutual exclusion, CAS winner, Close frame -/
  close : CInv s
  /-- every actor is at a program counter of its kind -/
  kinds : KInv (kindMap xs) s
  /-- result of `WriteClose` vs. winner -/
  closers : WInv (kindMap xs) s
  /-- I6: data frames of each actor: a contiguous, ordered prefix of its message -/
  data : DInv (kindMap xs) s
  /-- I7 (any number of readers) -/
  cbLast : CbLast s
  readerStarted : RSInv (kindMap xs) s
  /-- I7 (single reader) -/
  reader : Sched1R xs → RInv (kindMap xs) s

theorem inv_init : Inv [] {} :=
  { wf := wf_init, close := cinv_init, kinds := kinv_init, closers := winv_init, data := dinv_init,
    cbLast := cblast_init, readerStarted := by intro a sc h; simp at h, reader := fun _ => rinv_init }

theorem inv_step {xs : List Action} {s s' : State} {x : Action} (hi : Inv xs s) (h : step s x = some s') :
    Inv (xs ++ [x]) s' :=
  have hK : updK (kindMap xs) x = kindMap (xs ++ [x]) := (kindMap_snoc xs x).symm
  { wf := wf_step hi.wf h
    close := cinv_step hi.close h
    kinds := hK ▸ kinv_step hi.kinds h
    closers := hK ▸ winv_step hi.close hi.kinds hi.closers h
    data := hK ▸ dinv_step hi.close hi.kinds hi.data h
    cbLast := cblast_step hi.cbLast h
    readerStarted := hK ▸ rsinv_step hi.readerStarted h
    reader := fun hs => hK ▸ rinv_step (hK ▸ oneReader_of_sched hs) hi.kinds (hi.reader hs.prefix) h }

/-- **every reachable state satisfies every invariant** -/
theorem inv_run {xs : List Action} {s : State} (h : run {} xs = some s) : Inv xs s :=
  run_induction (motive := Inv) {} inv_init (fun _ _ _ _ _ hm hs => inv_step hm hs) xs s h

theorem reachable_step {s s' : State} {x : Action} (h : Reachable s) (hs : step s x = some s') :
    Reachable s' := by
  obtain ⟨xs, hr⟩ := h
  exact ⟨xs ++ [x], run_snoc hr hs⟩

theorem Reachable.cinv {s : State} (h : Reachable s) : CInv s := by
  obtain ⟨xs, hr⟩ := h
  exact (inv_run hr).close

theorem kindMap_of_mem {xs : List Action} {s : State} (h : run {} xs = some s) :
    ∀ a k, Action.spawn a k ∈ xs → kindMap xs a = some k := by
  refine run_induction (motive := fun xs _ => ∀ a k, Action.spawn a k ∈ xs → kindMap xs a = some k) {}
    (by intro a k hm; simp at hm) (fun xs s x s' hr hm hs => ?_) xs s h
  intro a k hmem
  rw [kindMap_snoc]
  rcases List.mem_append.1 hmem with hin | hlast
  · have ih := hm a k hin
    cases x with
    | act b f => exact ih
    | spawn b k' =>
      simp only [updK]
      by_cases hab : a = b
      · subst hab
        obtain ⟨-, hidle⟩ := spawn_cases hs
        have := (inv_run hr).kinds.of_idle hidle
        rw [this] at ih; cases ih
      · simp [hab, ih]
  · simp only [List.mem_singleton] at hlast
    subst hlast
    simp [updK]

theorem pc_idle_of_not_spawned {xs : List Action} {s : State} (h : run {} xs = some s) {a : Nat}
    (hn : ∀ k, Action.spawn a k ∉ xs) : s.pc a = .idle := by
  apply (inv_run h).kinds.idle_of_none
  cases hk : kindMap xs a with
  | none => rfl
  | some k => exact (hn k (kindMap_mem hk)).elim

theorem filter_isClose_of_noClose {w : List Frame} (h : NoClose w) : w.filter Frame.isClose = [] := by
  rw [List.filter_eq_nil_iff]
  intro f hf
  simp [h f hf]

theorem CInv.at_most_one_close {s : State} (hi : CInv s) : (s.wire.filter Frame.isClose).length ≤ 1 := by
  have h := hi.close_last
  rcases List.eq_nil_or_concat s.wire with e | ⟨l, b, e⟩
  · simp [e]
  · rw [e] at h ⊢
    simp only [List.concat_eq_append, List.dropLast_concat] at h
    simp only [List.concat_eq_append, List.filter_append, filter_isClose_of_noClose h, List.nil_append]
    by_cases hb : b.isClose = true <;> simp [hb]

theorem CInv.nothing_after_close {s : State} (hi : CInv s) {pre post : List Frame} {f : Frame}
    (hw : s.wire = pre ++ f :: post) (hf : f.isClose = true) : post = [] := by
  apply Classical.byContradiction
  intro hne
  have h := hi.close_last
  rw [hw, List.dropLast_append_of_ne_nil (by simp), List.dropLast_cons_of_ne_nil hne] at h
  have := h f (by simp)
  rw [hf] at this
  cases this

theorem CInv.close_closed {s : State} (hi : CInv s) {o : Nat} (hf : Frame.close o ∈ s.wire) :
    s.closed = true := by
  have := (hi.close_owner _ hf rfl).1
  rw [hi.closed_winner, this]; rfl

theorem step_closed_mono {s s' : State} {x : Action} (h : step s x = some s') (hc : s.closed = true) :
    s'.closed = true := by
  cases x with
  | spawn a k => obtain ⟨rfl, -⟩ := spawn_cases h; exact hc
  | act a f =>
    obtain ⟨t, p', rfl, -, ht⟩ := act_cases h
    rcases ht.flags with ⟨e, -⟩ | ⟨-, -, -, -, e, -⟩
    · rw [setPc_closed, e]; exact hc
    · exact e

/-- the program counters of a write call that found (or will find) the connection closed -/
def Pc.rejectedPath : Pc → Bool
  | .wLock _ | .fLock _ | .fCheck 0 _ | .bLock | .cCas (.ret .closed) | .done .closed => true
  | _ => false

/-- invariant of the continuation after spawning a write call on a closed connection -/
structure LateWriter (a : Nat) (s : State) : Prop where
  closed : s.closed = true
  path : (s.pc a).rejectedPath = true
  noFrame : ∀ f ∈ s.wire, f.owner ≠ a

theorem Trans.rejectedPath_next {s t : State} {a : Nat} {f : Bool} {q p' : Pc} (ht : Trans s a f q t p')
    (h : q.rejectedPath = true) (hc : s.closed = true) : p'.rejectedPath = true ∧ t.wire = s.wire := by
  cases ht with
  | casLoseRet r _ _ => cases r <;> simp_all [Pc.rejectedPath]
  | _ => simp_all [Pc.rejectedPath]

theorem lateWriter_step {a : Nat} {s s' : State} {x : Action} (hi : LateWriter a s)
    (h : step s x = some s') : LateWriter a s' := by
  obtain ⟨h1, h2, h3⟩ := hi
  cases x with
  | spawn b k =>
    obtain ⟨rfl, hidle⟩ := spawn_cases h
    have hab : a ≠ b := by intro e; subst e; rw [hidle] at h2; cases h2
    exact ⟨h1, by simpa [pc_setPc, hab] using h2, h3⟩
  | act b f =>
    have hc := step_closed_mono h h1
    obtain ⟨t, p', rfl, hp, ht⟩ := act_cases h
    by_cases hab : a = b
    · subst hab
      obtain ⟨hpath, hw⟩ := ht.rejectedPath_next h2 h1
      exact ⟨hc, by rw [pc_after hp, if_pos rfl]; exact hpath, by rw [setPc_wire, hw]; exact h3⟩
    · -- a frame written by another actor is its own
      refine ⟨hc, by rw [pc_after hp, if_neg hab]; exact h2, ?_⟩
      rw [setPc_wire]
      rcases ht.wire with e | ⟨g, e, ho, -⟩ <;> rw [e]
      · exact h3
      · rw [List.forall_mem_append, List.forall_mem_singleton, ho]
        exact ⟨h3, fun e => hab e.symm⟩

theorem lateWriter_spawn {a : Nat} {k : Kind} {s s₁ : State} (hc : CInv s) (hcl : s.closed = true)
    (hk : k.isWriter = true) (h : step s (.spawn a k) = some s₁) : LateWriter a s₁ := by
  obtain ⟨rfl, hidle⟩ := spawn_cases h
  refine ⟨hcl, ?_, ?_⟩
  · cases k <;> simp_all [startPc, Pc.rejectedPath, Kind.isWriter, Facts.bcClosedCheckUnderLock]
  · intro f hf e
    have := hc.owner_spawned f hf
    rw [e, hidle] at this
    exact this rfl

theorem lateWriter_run {a : Nat} {s₁ s₂ : State} {xs : List Action} (hi : LateWriter a s₁)
    (h : run s₁ xs = some s₂) : LateWriter a s₂ :=
  run_induction (motive := fun _ s => LateWriter a s) s₁ hi (fun _ _ _ _ _ hm hs => lateWriter_step hm hs) xs s₂ h

theorem owner_of_isDataOf {a : Nat} {f : Frame} (h : isDataOf a f = true) : f.owner = a := by
  cases f <;> simp_all [isDataOf, Frame.owner]

theorem LateWriter.result {a : Nat} {s : State} (hi : LateWriter a s) :
    (∀ f ∈ s.wire, f.owner ≠ a) ∧ s.wire.filter (isDataOf a) = [] ∧ ∀ r, s.pc a = .done r → r = .closed := by
  refine ⟨hi.noFrame, ?_, ?_⟩
  · rw [List.filter_eq_nil_iff]
    intro f hf hd
    exact hi.noFrame f hf (owner_of_isDataOf hd)
  · intro r hr
    have := hi.path
    rw [hr] at this
    cases r <;> simp_all [Pc.rejectedPath]

theorem filter_noData {a : Nat} {w : List Frame} (h : NoData a w) : w.filter (isDataOf a) = [] := by
  rw [List.filter_eq_nil_iff]
  intro f hf
  simp [h f hf]

theorem filter_msgFrames (a N i : Nat) : (msgFrames a N i).filter (isDataOf a) = msgFrames a N i := by
  rw [List.filter_eq_self]
  intro f hf
  obtain ⟨j, -, rfl⟩ := mem_msgFrames.1 hf
  simp [isDataOf]

theorem DClause.data_frames {N : Nat} {p : Pc} {w : List Frame} {a : Nat} (h : DClause N p w a) :
    ∃ i post, Prog N p i post ∧ w.filter (isDataOf a) = msgFrames a N i := by
  obtain ⟨i, pre, post, rfl, h1, h2, h3⟩ := h
  refine ⟨i, post, h3, ?_⟩
  rw [List.filter_append, List.filter_append, filter_noData h1, filter_noData h2, filter_msgFrames]
  simp

theorem data_of_filter {w : List Frame} {a N i j : Nat} {l : Bool}
    (hfil : w.filter (isDataOf a) = msgFrames a N i) (hf : Frame.data a j l ∈ w) : j < i ∧ l = (j + 1 == N) := by
  have : Frame.data a j l ∈ msgFrames a N i := hfil ▸ List.mem_filter.2 ⟨hf, by simp [isDataOf]⟩
  obtain ⟨j', hj', e⟩ := mem_msgFrames.1 this
  cases e
  exact ⟨hj', rfl⟩

theorem dclause_of_spawned {xs : List Action} {s : State} (h : run {} xs = some s) {a : Nat} {k : Kind}
    (hk : Action.spawn a k ∈ xs) : DClause k.frames (s.pc a) s.wire a := by
  have := (inv_run h).data a
  simpa [framesN, kindMap_of_mem h a k hk] using this

def NoFault (xs : List Action) : Prop := ∀ x ∈ xs, ∀ a, x ≠ Action.act a true

theorem Trans.partial_cases {s t : State} {a : Nat} {f : Bool} {q p' : Pc} (ht : Trans s a f q t p') :
    t.partialAfter = s.partialAfter ∨
      (f = true ∧ s.tclosed = false ∧ q.holdsLock = true ∧ t.wire = s.wire) := by
  cases ht with
  | wWriteFail b h | fFail _ _ b _ h | bWriteFail b h | kWriteFailOk b h | kWriteFail _ b _ h =>
    rcases h with ⟨-, e⟩ | ⟨h1, h2, -⟩
    · exact Or.inl e
    · exact Or.inr ⟨h2, h1, rfl, rfl⟩
  | _ => exact Or.inl rfl

def Cb.isClosed : Cb → Bool
  | .closedCb _ => true
  | _ => false

/-- open first, messages, at most one close, last -/
def CbShape (cbs : List Cb) : Prop :=
  cbs = [] ∨ ∃ m tail, cbs = .opened :: List.replicate m .message ++ tail ∧ (tail = [] ∨ ∃ c, tail = [.closedCb c])

theorem cbShape_of_rstate {sc : List Inbound} {cbs : List Cb} {p : Pc} (h : RState sc cbs p) : CbShape cbs := by
  cases p <;> simp only [RState] at h
  case rOpen => exact Or.inl h.2
  case rLoop => obtain ⟨m, -, e⟩ := h; exact Or.inr ⟨m, [], by simpa using e, Or.inl rfl⟩
  case done => obtain ⟨m, _, c, -, -, e⟩ := h; exact Or.inr ⟨m, [.closedCb c], e, Or.inr ⟨c, rfl⟩⟩
  all_goals (obtain ⟨m, _, -, -, e⟩ := h; exact Or.inr ⟨m, [], by simpa using e, Or.inl rfl⟩)

theorem cbShape_run {xs : List Action} {s : State} (h : run {} xs = some s) (h1 : Sched1R xs) :
    CbShape s.cbs := by
  have hi := (inv_run h).reader h1
  by_cases hn : NoReader (kindMap xs)
  · exact Or.inl (hi.noReader hn)
  · simp only [NoReader, Classical.not_forall, Bool.not_eq_false] at hn
    obtain ⟨a, k, hk, hr⟩ := hn
    cases k <;> simp [Kind.isReader] at hr
    exact cbShape_of_rstate (hi.reader a _ hk)

theorem CbShape.closed_once {cbs : List Cb} (h : CbShape cbs) :
    (cbs.filter Cb.isClosed).length ≤ 1 ∧ (cbs.filter (· == .opened)).length ≤ 1 ∧
    ∀ c, Cb.closedCb c ∈ cbs → cbs.getLast? = some (.closedCb c) := by
  rcases h with rfl | ⟨m, tail, rfl, rfl | ⟨c, rfl⟩⟩
  · simp
  · refine ⟨?_, ?_, ?_⟩
    · simp [Cb.isClosed]
    · simp
    · intro c hc
      simp at hc
  · refine ⟨?_, ?_, ?_⟩
    · simp [List.filter_cons, List.filter_append, Cb.isClosed]
    · simp [List.filter_append]
    · intro c' hc
      simp at hc
      subst hc
      exact List.getLast?_concat

theorem acts_bounded {s s' : State} {xs : List Action} (hc : CInv s) (hr : run s xs = some s')
    (ha : ∀ x ∈ xs, ∃ a f, x = Action.act a f) : xs.length + steps s' ≤ steps s := by
  induction xs generalizing s with
  | nil => simp [run] at hr; subst hr; simp
  | cons x xs ih =>
    simp only [run] at hr
    split at hr
    · cases hr
    · rename_i s1 hs1
      obtain ⟨a, f, rfl⟩ := ha x (by simp)
      have hd := steps_decreases (hc.fcheck_le _) hs1
      have := ih (cinv_step hc hs1) hr (fun y hy => ha y (List.mem_cons_of_mem _ hy))
      simp only [List.length_cons]
      omega

theorem teardown {xs : List Action} {s : State} (h : run {} xs = some s)
    (hall : ∀ a, s.pc a = .idle ∨ ∃ r, s.pc a = .done r) (hc : s.closed = true) :
    s.tclosed = true ∧ ∀ a sc, Action.spawn a (.reader sc) ∈ xs → ∃ c, s.cbs.getLast? = some (.closedCb c) := by
  have hi := (inv_run h).close
  constructor
  · have hw := hi.closed_winner
    rw [hc] at hw
    cases hwn : s.winner with
    | none => rw [hwn] at hw; cases hw
    | some w =>
      rcases hi.winner_pc w hwn with h1 | ⟨h1, -⟩
      · rcases hall w with e | ⟨r, e⟩ <;> rw [e] at h1 <;> cases h1
      · exact h1
  · intro a sc hk
    have hinact : ∀ b, (s.pc b).readerActive = false := by
      intro b
      rcases hall b with e | ⟨r, e⟩ <;> rw [e] <;> rfl
    rcases (inv_run h).readerStarted a sc (kindMap_of_mem h a _ hk) with ⟨sc', e⟩ | hne
    · rcases hall a with e' | ⟨r, e'⟩ <;> rw [e'] at e <;> cases e
    · rcases (inv_run h).cbLast hinact with e | e
      · exact (hne e).elim
      · exact e

end Conc
