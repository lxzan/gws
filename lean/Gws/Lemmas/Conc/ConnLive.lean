import Gws.Lemmas.Conc.ConnBasic
/-!
# Progress of the connection transition system

* `step_enabled`: an actor that is not finished can act when the lock is free or it holds the lock.
* `steps`: a measure that strictly decreases with every `act` (`steps_decreases`).
-/

namespace Conc

theorem step_enabled {s : State} {a : Nat} (f : Bool)
    (hl : s.lockHeld = false ∨ (s.pc a).holdsLock = true)
    (h1 : s.pc a ≠ .idle) (h2 : ∀ r, s.pc a ≠ .done r) : (step s (.act a f)).isSome = true := by
  -- by program counter: `idle`/`done` are excluded, a lock holder's branch has no guard, and the only
  -- `none` left is the mutex guard, which `hl` passes
  simp only [step]
  split <;> simp_all [Pc.holdsLock]
  all_goals (repeat' split)
  all_goals simp

theorem exists_enabled {s : State} (hwf : s.WF) {a : Nat} (h1 : s.pc a ≠ .idle) (h2 : ∀ r, s.pc a ≠ .done r) :
    ∃ b f, (step s (.act b f)).isSome = true := by
  cases hl : s.lockHeld with
  | false => exact ⟨a, false, step_enabled false (Or.inl hl) h1 h2⟩
  | true =>
    obtain ⟨b, hb⟩ := holder_of_lockHeld hwf hl
    refine ⟨b, false, step_enabled false (Or.inr hb) ?_ ?_⟩
    · intro e; rw [e] at hb; cases hb
    · intro r e; rw [e] at hb; cases hb

/-- actions left after the close sequence proper: the `OnClose` callback; for `readerAgain` a second close
sequence with `OnClose`, `rem (cCas readerOnClose)` -/
def Cont.after : Cont → Nat
  | .ret _ => 0
  | .readerOnClose => 1
  | .readerAgain => 5

/-- an upper bound on the number of actions an actor at this program counter can still perform.  A close
sequence is 4 actions (`cCas`, `kLock`, `kWrite`, `cTclose`) and what follows it; a write path is its own
actions and, for a write that fails, a close sequence (`wLock`: 1 + 1 + 4); the read loop is one action per
script item and then at worst `cCas readerAgain` (1 + 9). -/
def Pc.rem : Pc → Nat
  | .idle | .done _ => 0
  | .wLock _ => 6
  | .wWrite => 5
  | .fLock n => n + 7
  | .fCheck i n => (n - i) + 5
  | .bStart => 7
  | .bLock => 6
  | .bWrite => 5
  | .cCas k => 4 + k.after
  | .kLock k => 3 + k.after
  | .kWrite k => 2 + k.after
  | .cTclose k => 1 + k.after
  | .rOpen sc => sc.length + 11
  | .rLoop sc => sc.length + 10
  | .rOnClose => 1

def remSum (l : List (Nat × Pc)) : Nat := (l.map (fun x => x.2.rem)).sum

/-- total number of actions the spawned actors can still perform (upper bound) -/
def steps (s : State) : Nat := remSum s.pcs

theorem remSum_filter_le (l : List (Nat × Pc)) (p : Nat × Pc → Bool) : remSum (l.filter p) ≤ remSum l := by
  induction l with
  | nil => simp [remSum]
  | cons x l ih =>
    simp only [List.filter_cons]
    split <;> simp only [remSum, List.map_cons, List.sum_cons] at * <;> omega

theorem remSum_split (l : List (Nat × Pc)) (a : Nat) :
    (((l.find? (fun x => x.1 == a)).map (fun x => x.2)).getD Pc.idle).rem +
      remSum (l.filter (fun x => x.1 != a)) ≤ remSum l := by
  induction l with
  | nil => simp [remSum, Pc.rem]
  | cons x l ih =>
    by_cases hx : x.1 = a
    · have := remSum_filter_le l (fun x => x.1 != a)
      simp [hx, remSum] at *
      omega
    · simp [hx, remSum] at *
      omega

theorem steps_setPc (s t : State) (hp : t.pcs = s.pcs) (a : Nat) (p' : Pc) (h : p'.rem < (s.pc a).rem) :
    steps (t.setPc a p') < steps s := by
  have := remSum_split s.pcs a
  have e : steps (t.setPc a p') = p'.rem + remSum (s.pcs.filter (fun x => x.1 != a)) := by
    simp [steps, State.setPc, hp, remSum]
  rw [e]
  unfold State.pc at h
  unfold steps
  omega

theorem steps_decreases {s s' : State} {a : Nat} {f : Bool} (hle : ∀ i n, s.pc a = .fCheck i n → i ≤ n)
    (h : step s (.act a f) = some s') : steps s' < steps s := by
  obtain ⟨t, p', rfl, hp, ht⟩ := act_cases h
  apply steps_setPc s t hp
  generalize s.pc a = q at ht hle
  cases ht with
  | fNext i n hne _ _ _ =>
    have := hle i n rfl
    simp only [Pc.rem]
    omega
  | _ => simp [Pc.rem, Cont.after]

end Conc
