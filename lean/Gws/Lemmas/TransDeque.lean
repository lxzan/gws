import Gws.Trans.DequePrelude
import Gws.Lemmas.Deque.Basic
/-!
# Helper lemmas for the equivalence between the translated internal/deque.go (`TransDeque.*`) and the model (`Deque.*`)

The translation checks every pointer indirection for nil (`GoDeque.deref`/`assign`); the model leaves the check out where
the pointer provably is not nil. The lemmas here discharge those checks: `Get` yields the address it was given (or
panics), so whatever follows it can be read with the address in place of the pointer (`get_bind`), and an address that
was tested against 0 is a pointer that is not nil.
-/

namespace TransEquiv.Dq
open GoDeque

@[simp] theorem deref_ne {d : Deque} {p : Nat} (h : p ≠ 0) : deref d p = some (d.load p) := by simp [deref, h]
@[simp] theorem assign_ne {d : Deque} {p : Nat} (e : Elem) (h : p ≠ 0) : assign d p e = some (d.store p e) := by simp [assign, h]

/-- As pre-rewrites (`↓deref_bind`) these two run a block of translated statements from the top: otherwise `simp` normalises
each continuation under its binder first, once for every statement in front of it. -/
theorem deref_bind {β : Type} {d : Deque} {p : Nat} (h : p ≠ 0) (f : Elem → Option β) :
    (deref d p).bind f = f (d.load p) := by simp [h]
theorem assign_bind {β : Type} {d : Deque} {p : Nat} (h : p ≠ 0) (e : Elem) (f : Deque → Option β) :
    (assign d p e).bind f = f (d.store p e) := by simp [h]

@[simp] theorem deref_zero (d : Deque) : deref d 0 = none := by simp [deref]
@[simp] theorem assign_zero (d : Deque) (e : Elem) : assign d 0 e = none := by simp [assign]

theorem get_congr {d d' : Deque} (h : d'.elements.length = d.elements.length) (a : Nat) : d'.get a = d.get a := by
  rw [Deque.get_eq_ite, Deque.get_eq_ite, h]

theorem ite_some_bind {α β : Type} (c : Prop) [Decidable c] (x : α) (f : α → Option β) :
    (if c then some x else none).bind f = if c then f x else none := by
  split <;> rfl

theorem get_bind {β : Type} (d : Deque) (a : Nat) (f : Nat → Option β) :
    (d.get a).bind f = if a = 0 ∨ a < d.elements.length then f a else none := by
  rw [Deque.get_eq_ite, ite_some_bind]

theorem load_store (d : Deque) (p q : Nat) (e : Elem) :
    (d.store p e).load q = if p = q ∧ p < d.elements.length then e else d.load q := by
  simp only [Deque.load_store, eq_comm]

theorem store_store_same (d : Deque) (p : Nat) (e e' : Elem) : (d.store p e).store p e' = d.store p e' := by
  simp [Deque.store, List.set_set]

theorem store_oob {d : Deque} {p : Nat} (e : Elem) (h : ¬ p < d.elements.length) : d.store p e = d := by
  simp [Deque.store, List.set_eq_of_length_le (Nat.le_of_not_lt h)]

end TransEquiv.Dq
