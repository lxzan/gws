import Gws.Lemmas.WriterCall
import Gws.Lemmas.ReaderLoop
/-!
# One frame of the writer, read by the reader (helpers for Props/C01)

`Frame.parse` reads back `GenerateHeader`'s bytes because both sides agree with the RFC decoder (`Reader.parse_spec`,
`Writer.genHeader_decodes_eq`).  `Runs`, a sequence of completed `readMessage` calls, is how the theorems about several
frames talk about `readLoop`.
-/

namespace Compose

theorem parse_genHeader (isServer fin rsv1 : Bool) (opcode n : Nat) (key rest : Bytes)
    (hop : opcode < 16) (hn : n < 2 ^ 63) (hk : key.length = 4) :
    ∃ h, Frame.parse (Frame.genHeader isServer fin rsv1 opcode n key ++ rest) = .ok h rest ∧
      Frame.getFIN h.b0 = fin ∧ Frame.getRSV1 h.b0 = rsv1 ∧ Frame.getRSV2 h.b0 = false ∧
      Frame.getRSV3 h.b0 = false ∧ Frame.getOpcode h.b0 = opcode ∧ Frame.getMask h.b1 = (!isServer) ∧
      h.key = (if isServer then [] else key) ∧ h.len = (n : Int) ∧
      (n ≤ 125 → Frame.getLengthCode h.b1 = n) := by
  have hd := Writer.genHeader_decodes_eq isServer fin rsv1 opcode n key rest hop (by omega) hk
  have hp := Reader.parse_spec (Frame.genHeader isServer fin rsv1 opcode n key ++ rest)
  rw [hd] at hp
  generalize Frame.parse _ = x at hp
  cases hp with
  | ok h sh rest' hrel =>
    refine ⟨h, rfl, hrel.fin.symm, hrel.rsv1.symm, hrel.rsv2.symm, hrel.rsv3.symm, hrel.opcode.symm,
      hrel.masked.symm, hrel.key.symm, ?_, ?_⟩
    · have := hrel.len
      simp only [Writer.sentHdr] at this
      rw [this, Reader.toGoInt_of_lt n hn]
      exact ite_self _
    · intro h125
      have := hrel.form
      simp only [Writer.sentHdr, h125, ↓reduceIte] at this
      omega

theorem headerCheck_sent (cfg : Reader.Cfg) (h : Frame.Hdr) (senderIsServer rsv1 : Bool) (opcode n : Nat)
    (hrole : cfg.isServer = !senderIsServer)
    (hlen : h.len = (n : Int)) (hfit : (n : Int) ≤ cfg.readMax)
    (h1 : Frame.getRSV1 h.b0 = rsv1) (h2 : Frame.getRSV2 h.b0 = false) (h3 : Frame.getRSV3 h.b0 = false)
    (hop : Frame.getOpcode h.b0 = opcode) (hm : Frame.getMask h.b1 = !senderIsServer)
    (hrsv : rsv1 = true → cfg.pdEnabled = true ∧ (opcode = Facts.opText ∨ opcode = Facts.opBinary)) :
    Reader.headerCheck cfg h = none := by
  unfold Reader.headerCheck
  have hl : ¬ (h.len < 0 ∨ h.len > cfg.readMax) := by omega
  rw [if_neg hl]
  simp only [h1, h2, h3, hop, hm, hrole]
  cases rsv1 <;> cases senderIsServer <;> simp_all

theorem wireBody_recv (senderIsServer : Bool) (key body : Bytes) :
    (if senderIsServer then body else Reader.unmask key body).length = body.length ∧
    (if (!senderIsServer) = true then
        Reader.unmask (if senderIsServer then [] else key) (if senderIsServer then body else Reader.unmask key body)
      else (if senderIsServer then body else Reader.unmask key body)) = body := by
  cases senderIsServer <;> simp [Writer.unmask_involutive]

/-- of the header `h` only what `afterPayload` looks at is said -/
theorem step_dataFrame (cfg : Reader.Cfg) (codec : Codec) (st : Reader.State) (senderIsServer fin rsv1 : Bool)
    (opcode : Nat) (body key rest : Bytes)
    (hrole : cfg.isServer = !senderIsServer) (hop : opcode ≤ 2) (hk : key.length = 4)
    (hfit : (body.length : Int) ≤ cfg.readMax) (hR : cfg.readMax < 2 ^ 63)
    (hrsv : rsv1 = true → cfg.pdEnabled = true ∧ (opcode = Facts.opText ∨ opcode = Facts.opBinary)) :
    ∃ h, Frame.getFIN h.b0 = fin ∧ Frame.getRSV1 h.b0 = rsv1 ∧ Frame.getOpcode h.b0 = opcode ∧
      Reader.step cfg codec st (Writer.wireFrame senderIsServer fin rsv1 opcode body key ++ rest) =
        Reader.afterPayload cfg codec st h body rest := by
  unfold Writer.wireFrame
  rw [List.append_assoc]
  -- the header parses, passes `headerCheck`, is not a control frame; `dataFrame` then takes `h.len = body.length` bytes off
  -- the input and unmasks them with the key it parsed
  obtain ⟨h, hp, hfin, h1, h2, h3, hopc, hm, hkey, hlen, _⟩ :=
    parse_genHeader senderIsServer fin rsv1 opcode body.length key
      ((if senderIsServer then body else Reader.unmask key body) ++ rest) (by omega) (by omega) hk
  refine ⟨h, hfin, h1, hopc, ?_⟩
  rw [Reader.step_of_parse hp,
    headerCheck_sent cfg h senderIsServer rsv1 opcode body.length hrole hlen hfit h1 h2 h3 hopc hm hrsv]
  simp only
  have hnc : ¬ Frame.getOpcode h.b0 > Facts.dataFrameMaxOpcode := by
    rw [hopc]; simp [Facts.dataFrameMaxOpcode]; omega
  rw [if_neg hnc, Reader.dataFrame_eq]
  have hn : h.len.toNat = body.length := by rw [hlen]; simp
  obtain ⟨hbl, hrecv⟩ := wireBody_recv senderIsServer key body
  have hnl : ¬ ((if senderIsServer then body else Reader.unmask key body) ++ rest).length < h.len.toNat := by
    rw [hn, List.length_append, hbl]; omega
  rw [if_neg hnl, hn, ← hbl, List.take_left, List.drop_left, hm, hkey, hrecv]

theorem step_controlFrame (cfg : Reader.Cfg) (codec : Codec) (st : Reader.State) (senderIsServer : Bool)
    (opcode : Nat) (body key rest : Bytes)
    (hrole : cfg.isServer = !senderIsServer) (hop : opcode = Facts.opPing ∨ opcode = Facts.opPong)
    (hk : key.length = 4) (h125 : body.length ≤ 125) (hfit : (body.length : Int) ≤ cfg.readMax) :
    Reader.step cfg codec st (Writer.wireFrame senderIsServer true false opcode body key ++ rest) =
      .ok st [if opcode = Facts.opPing then .ping body else .pong body] rest := by
  unfold Writer.wireFrame
  rw [List.append_assoc]
  -- as in `step_dataFrame` up to the opcode test, which now leads into `readControl`: its three guards (FIN, 7-bit length
  -- code at most 125, enough input) pass, and it takes the body by the length CODE
  have hop16 : opcode < 16 := by rcases hop with rfl | rfl <;> simp [Facts.opPing, Facts.opPong]
  obtain ⟨h, hp, hfin, h1, h2, h3, hopc, hm, hkey, hlen, hcode⟩ :=
    parse_genHeader senderIsServer true false opcode body.length key
      ((if senderIsServer then body else Reader.unmask key body) ++ rest) hop16 (by omega) hk
  rw [Reader.step_of_parse hp,
    headerCheck_sent cfg h senderIsServer false opcode body.length hrole hlen hfit h1 h2 h3 hopc hm (by simp)]
  simp only
  have hc : Frame.getOpcode h.b0 > Facts.dataFrameMaxOpcode := by
    rw [hopc]; rcases hop with rfl | rfl <;> simp [Facts.opPing, Facts.opPong, Facts.dataFrameMaxOpcode]
  rw [if_pos hc]
  unfold Reader.readControl
  have hcode' := hcode h125
  obtain ⟨hbl, hrecv⟩ := wireBody_recv senderIsServer key body
  have e1 : ¬ (!Frame.getFIN h.b0) = true := by simp [hfin]
  have e2 : ¬ Frame.getLengthCode h.b1 > Facts.thresholdV1 := by rw [hcode']; simp [Facts.thresholdV1]; omega
  have e3 : ¬ ((if senderIsServer then body else Reader.unmask key body) ++ rest).length < Frame.getLengthCode h.b1 := by
    rw [hcode', List.length_append, hbl]; omega
  simp only [e1, e2, e3, ↓reduceIte]
  rw [hcode', ← hbl, List.take_left, List.drop_left, hm, hkey, hopc]
  rw [Reader.unmask_guard _ _ _ _ rfl, hrecv]
  rcases hop with rfl | rfl
  · simp [Facts.opPing]
  · simp [Facts.opPing, Facts.opPong]

/-- `Runs cfg codec st b st' evs rest`: starting in `st` on input `b`, some number of consecutive
`readMessage` calls complete, deliver `evs` in this order, and leave the reader in `st'` with `rest`
unread -/
inductive Runs (cfg : Reader.Cfg) (codec : Codec) : Reader.State → Bytes → Reader.State → List Reader.Ev → Bytes → Prop
  | nil (st : Reader.State) (b : Bytes) : Runs cfg codec st b st [] b
  | cons {st st1 st2 : Reader.State} {b b1 b2 : Bytes} {evs1 evs2 : List Reader.Ev} :
      Reader.step cfg codec st b = .ok st1 evs1 b1 → Runs cfg codec st1 b1 st2 evs2 b2 →
      Runs cfg codec st b st2 (evs1 ++ evs2) b2

theorem Runs.one {cfg : Reader.Cfg} {codec : Codec} {st st1 : Reader.State} {b b1 : Bytes} {evs : List Reader.Ev}
    (h : Reader.step cfg codec st b = .ok st1 evs b1) : Runs cfg codec st b st1 evs b1 := by
  have := Runs.cons h (Runs.nil st1 b1)
  simpa using this

theorem Runs.trans {cfg : Reader.Cfg} {codec : Codec} {st st1 st2 : Reader.State} {b b1 b2 : Bytes}
    {evs1 evs2 : List Reader.Ev} (h1 : Runs cfg codec st b st1 evs1 b1) (h2 : Runs cfg codec st1 b1 st2 evs2 b2) :
    Runs cfg codec st b st2 (evs1 ++ evs2) b2 := by
  induction h1 with
  | nil => simpa using h2
  | cons hs _ ih => rw [List.append_assoc]; exact Runs.cons hs (ih h2)

theorem Runs.readLoop {cfg : Reader.Cfg} {codec : Codec} {st st' : Reader.State} {b rest : Bytes} {evs : List Reader.Ev}
    (h : Runs cfg codec st b st' evs rest) :
    Reader.readLoop cfg codec st b =
      { evs := evs ++ (Reader.readLoop cfg codec st' rest).evs, ending := (Reader.readLoop cfg codec st' rest).ending } := by
  induction h with
  | nil => simp
  | cons hs _ ih => rw [Reader.readLoop_ok hs, ih, List.append_assoc]

/-- on exhausted input the loop waits: `.err .other` is the model's end of stream -/
theorem readLoop_nil (cfg : Reader.Cfg) (codec : Codec) (st : Reader.State) :
    Reader.readLoop cfg codec st [] = { evs := [], ending := .err .other } :=
  Reader.readLoop_stop (by simp [Reader.step, Frame.parse, Reader.ioErr])

/-- `b ++ []`: the form in which a run stated for every continuation `rest` is used -/
theorem Runs.readLoop_all {cfg : Reader.Cfg} {codec : Codec} {st st' : Reader.State} {b : Bytes} {evs : List Reader.Ev}
    (h : Runs cfg codec st (b ++ []) st' evs []) :
    Reader.readLoop cfg codec st b = { evs := evs, ending := .err .other } := by
  rw [List.append_nil] at h
  rw [h.readLoop, readLoop_nil, List.append_nil]

end Compose
