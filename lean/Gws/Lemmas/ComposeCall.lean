import Gws.Lemmas.ComposeSend
/-!
# Every kind of write call is delivered (helpers for Props/C01)

`Delivered`: what one successful call establishes — the bytes of the call, followed by anything, take the reader from
`rst` to an `rst'` (idle again, window equal to the sender's), delivering exactly the one expected event.
-/

namespace Compose

/-- the windows of the two ends agree and satisfy the C17 invariant; a statement about connections with permessage-deflate
only: without the extension the windows are never consulted -/
def InSync (w : Writer.Cfg) (cps dps : Win) : Prop := w.pdEnabled = true → cps = dps ∧ WinOk cps

def Delivered (w : Writer.Cfg) (r : Reader.Cfg) (codec : Codec) (rst : Reader.State) (o : Writer.Out) (ev : Reader.Ev) : Prop :=
  o.err = none ∧ o.st.closed = false ∧
  ∃ rst' : Reader.State, rst'.cont.initialized = false ∧ InSync w o.st.cps rst'.dps ∧
    ∀ rest, Runs r codec rst (o.wire ++ rest) rst' [ev] rest

theorem oneFrame_delivered (w : Writer.Cfg) (r : Reader.Cfg) (codec : Codec) (hc : Compatible w r)
    (cst : Writer.Conn) (rst : Reader.State) (hopen : cst.closed = false) (hidle : rst.cont.initialized = false)
    (hs : InSync w cst.cps rst.dps) (z : Bool) (op : Nat) (body out key : Bytes) (cps' : Win)
    (hz : z = true → w.pdEnabled = true) (hop : isData op) (hk : key.length = 4)
    (hfit : (body.length : Int) ≤ r.readMax)
    (hd : if z then codec.decompress r.readMax rst.dps.dict body = .ok out else body = out)
    (htr : textOk r.checkUtf8 op out)
    (hcps : cps' = if z then cst.cps.write out else cst.cps) :
    Delivered w r codec rst
      { wire := Writer.wireFrame w.isServer true z op body key, err := none, st := { cst with cps := cps' } } (.msg op out) := by
  refine ⟨rfl, hopen, { rst with dps := if z then rst.dps.write out else rst.dps }, hidle, fun hpd => ?_, fun rest =>
    Runs.one (step_msg r codec rst w.isServer z op body out key rest hc.role hc.int (fun h => by rw [hc.ext]; exact hz h)
      hop hk hfit hd htr hidle)⟩
  obtain ⟨hsync, hwin⟩ := hs hpd
  subst hcps
  cases z
  · exact ⟨hsync, hwin⟩
  · exact ⟨by simp [hsync], winOk_write _ _ hwin⟩

/-- the calls whose frame is compressed without a dictionary: only for these do the C01 theorems ask for the law `DictFree` -/
def Send.isBcast : Send → Bool
  | .bcast .. => true
  | _ => false

theorem call_delivered (w : Writer.Cfg) (r : Reader.Cfg) (codec : Codec) (hc : Compatible w r)
    (hRT : w.pdEnabled = true → RoundTrip codec) (hMin : w.pdEnabled = true → MinOut codec)
    (c : Call) (hDF : w.pdEnabled = true → c.send.isBcast = true → DictFree codec)
    (cst : Writer.Conn) (rst : Reader.State)
    (hopen : cst.closed = false) (hidle : rst.cont.initialized = false) (hs : InSync w cst.cps rst.dps)
    (hkeys : ∀ i, (c.keys i).length = 4) (hok : c.send.Ok w r codec cst.cps) :
    Delivered w r codec rst (c.run w codec cst) c.send.event := by
  obtain ⟨send, keys⟩ := c
  have hint := hc.int
  have control : ∀ (op : Nat) (p : Bytes), op = Facts.opPing ∨ op = Facts.opPong →
      p.length ≤ 125 ∧ p.length ≤ w.writeMax ∧ (p.length : Int) ≤ r.readMax →
      Delivered w r codec rst (Writer.writeMessage w codec cst op [p] keys) (if op = Facts.opPing then .ping p else .pong p) := by
    intro op p hop ⟨h125, hmax, hfit⟩
    have hop8 : 8 ≤ op ∧ op ≠ Facts.opText := by
      rcases hop with rfl | rfl <;> simp [Facts.opPing, Facts.opPong, Facts.opText]
    have hz := Writer.willCompress_control w (Writer.msgCfg w) op [p].flatten.length hop8.1
    rw [writeMessage_eq w codec cst op [p] keys _ hopen
      (Writer.genFrame_pass (hkeys 0) (fun h => hop8.2 h.1) (by simpa using hmax) (.inl hz)), hz, Writer.sentBody_plain hz]
    refine ⟨rfl, hopen, rst, hidle, hs, fun rest => ?_⟩
    have := step_controlFrame r codec rst w.isServer op p (keys 0) rest hc.role hop (hkeys 0) h125 hfit
    exact Runs.one (by simpa [Writer.msgCfg] using this)
  cases send with
  | msg op p =>
    -- `doWrite`: below the threshold the payload is sent as it is, above it compressed against the sender's window (law `RoundTrip`)
    show Delivered w r codec rst (Writer.writeMessage w codec cst op p keys) (.msg op p.flatten)
    obtain ⟨hop, hmax, hfit, htw, htr, hzf⟩ := hok
    have hge := Writer.stripTail_length_ge (codec.compress w.bits cst.cps.dict p)
    have hb : Writer.willCompress w (Writer.msgCfg w) op p.flatten.length = true →
        Writer.sentBody w codec cst.cps op p (Writer.msgCfg w) = Writer.stripTail (codec.compress w.bits cst.cps.dict p) :=
      Writer.sentBody_compressed
    cases hz : Writer.willCompress w (Writer.msgCfg w) op p.flatten.length
    · rw [writeMessage_eq w codec cst op p keys _ hopen
        (Writer.genFrame_pass (hkeys 0) (buffersCheck_of_textOk hop htw) hmax (.inl hz)), hz, Writer.sentBody_plain hz]
      exact oneFrame_delivered w r codec hc cst rst hopen hidle hs false op _ _ _ _ (fun h => nomatch h) hop (hkeys 0) hfit rfl htr rfl
    · have hpd := Writer.compress_of_willCompress hz
      obtain ⟨hsync, hwin⟩ := hs hpd
      rw [writeMessage_eq w codec cst op p keys _ hopen
        (Writer.genFrame_pass (hkeys 0) (buffersCheck_of_textOk hop htw) hmax
          (.inr ⟨hMin hpd _ _ _, by simp only [Writer.msgCfg, Bool.false_eq_true, ↓reduceIte]; have := hzf hz; omega⟩)), hz, hb hz]
      exact oneFrame_delivered w r codec hc cst rst hopen hidle hs true op _ p.flatten _ _ (fun _ => hpd) hop (hkeys 0) (hzf hz)
        (by rw [← hsync]; exact hRT hpd w.bits cst.cps.dict p r.readMax hfit) htr (Win.foldl_write_eq _ _ hwin)
  | ping p => simpa [Call.run, Send.event] using control Facts.opPing p (.inl rfl) hok
  | pong p => simpa [Call.run, Send.event, Facts.opPing, Facts.opPong] using control Facts.opPong p (.inr rfl) hok
  | file op reads outs =>
    -- `doWriteFile`: `runs_fileFrames` on `reads` itself, or, compressed, on `Writer.planScript outs`, whose chunks join to the
    -- library's output minus its trailer (law `RoundTrip`)
    show Delivered w r codec rst (Writer.writeFile w codec cst op reads outs keys) (.msg op (Writer.readChunks reads).1.flatten)
    obtain ⟨hop, heof, hfit, htr, hrest⟩ := hok
    have hop16 : op < 16 := by have := isData_le hop; omega
    cases hpd : w.pdEnabled
    · simp only [hpd, Bool.false_eq_true, ↓reduceIte] at hrest
      rw [Writer.writeFile_plain_eq w codec cst op reads outs keys hop16 hkeys hopen hpd heof hrest]
      obtain ⟨c', hc', hrun⟩ := runs_fileFrames w r codec op keys hc.role hc.ext hc.int hkeys hop reads rst _
        heof hidle hfit (by rw [hpd]; exact rfl) htr
      simp only [hpd, Bool.false_eq_true, ↓reduceIte] at hrun
      exact ⟨rfl, hopen, { cont := c', dps := rst.dps }, hc', hs, hrun⟩
    · simp only [hpd, ↓reduceIte] at hrest
      obtain ⟨hcut, hmax, hzfit⟩ := hrest
      obtain ⟨hsync, hwin⟩ := hs hpd
      have hne : outs ≠ [] := by
        intro h
        have := hMin hpd w.bits cst.cps.dict (Writer.readChunks reads).1
        rw [← hcut, h] at this
        simp at this
      obtain ⟨hrc, htot, -⟩ := Writer.planScript_chunks outs
      rw [Writer.writeFile_compressed_eq w codec cst op reads outs keys hop16 hkeys hopen hpd heof hne hmax]
      obtain ⟨c', hc', hrun⟩ := runs_fileFrames w r codec op keys hc.role hc.ext hc.int hkeys hop (Writer.planScript outs) rst
        (Writer.readChunks reads).1.flatten hrc hidle (by rw [htot]; exact hzfit) (by
          rw [hpd, htot, ← hsync, hcut]
          exact hRT hpd w.bits cst.cps.dict _ r.readMax hfit) htr
      simp only [hpd, ↓reduceIte] at hrun
      refine ⟨rfl, hopen, { cont := c', dps := rst.dps.write (Writer.readChunks reads).1.flatten }, hc', fun _ => ?_, hrun⟩
      show (Writer.readChunks reads).1.foldl Win.write cst.cps = rst.dps.write _ ∧ WinOk ((Writer.readChunks reads).1.foldl Win.write cst.cps)
      rw [Win.foldl_write_eq _ _ hwin]
      exact ⟨by rw [hsync], winOk_write _ _ hwin⟩
  | bcast op p bcfg bcps bkey =>
    -- the shared frame was built (once, without a dictionary: law `DictFree`) under `bcfg`, of this sender's role
    show Delivered w r codec rst
      (Writer.broadcast w codec cst (Writer.broadcastFrame bcfg codec bcps op p bkey) p (keys 0)) (.msg op p)
    obtain ⟨hop, hsrv, hbpd, hbk, hmax, hfit, htw, htr, hzf⟩ := hok
    have hfl : [p].flatten = p := List.flatten_singleton
    have hge := Writer.stripTail_length_ge (codec.compress bcfg.bits [] [p])
    have hb : Writer.willCompress bcfg (Writer.bcCfg bcfg) op [p].flatten.length = true →
        Writer.sentBody bcfg codec bcps op [p] (Writer.bcCfg bcfg) = Writer.stripTail (codec.compress bcfg.bits [] [p]) :=
      Writer.sentBody_compressed
    have henc := buffersCheck_of_textOk (check := (Writer.bcCfg bcfg).checkEncoding) (p := [p]) hop (by rw [hfl]; exact htw)
    unfold Writer.broadcastFrame
    cases hz : Writer.willCompress bcfg (Writer.bcCfg bcfg) op p.length
    · have hz' : Writer.willCompress bcfg (Writer.bcCfg bcfg) op [p].flatten.length = false := by rw [hfl]; exact hz
      rw [Writer.genFrame_pass hbk henc (by rw [hfl]; exact hmax) (.inl hz'), hz', Writer.sentBody_plain hz']
      simp only
      rw [broadcast_eq w codec cst _ p (keys 0) false hopen, hfl, hsrv]
      exact oneFrame_delivered w r codec hc cst rst hopen hidle hs false op _ _ _ _ (fun h => nomatch h) hop hbk hfit rfl htr rfl
    · have hz' : Writer.willCompress bcfg (Writer.bcCfg bcfg) op [p].flatten.length = true := by rw [hfl]; exact hz
      have hpd : w.pdEnabled = true := by rw [← hbpd]; exact Writer.compress_of_willCompress hz
      rw [Writer.genFrame_pass hbk henc (by rw [hfl]; exact hmax)
        (.inr ⟨hMin hpd _ _ _, by simp only [Writer.bcCfg, ↓reduceIte]; have := hzf hz; omega⟩), hz']
      simp only
      rw [broadcast_eq w codec cst _ p (keys 0) true hopen, hsrv, hb hz']
      exact oneFrame_delivered w r codec hc cst rst hopen hidle hs true op _ p _ _ (fun _ => hpd) hop hbk (hzf hz)
        (by have := hDF hpd rfl bcfg.bits rst.dps.dict [p] r.readMax (by rw [hfl]; exact hfit); rwa [hfl] at this) htr rfl

end Compose
