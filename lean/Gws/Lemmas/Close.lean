import Gws.Model.ReaderRel
/-! Close-status classification against RFC 6455 §7.4 / the C06 table. -/
namespace Close

theorem be16_eq (a b : UInt8) : Frame.be16 a b = a.toNat * 256 + b.toNat := rfl

/-- the `Facts` names come from the current source: if a literal in `emitClose` changes, this `rfl` fails.  (Unfolding them
by `simp` instead would leave them inside the `Decidable` instances, where `split` and `apply_ite` stumble over them.) -/
theorem classify_eq (code : Nat) :
    classify code =
      if code ∈ [1004, 1005, 1006, 1015] then 1002
      else if code < 1000 ∨ code ≥ 5000 ∨ (code ≥ 1016 ∧ code < 3000) then 1002
      else if code < 1016 then 1000 else code := rfl

theorem classify_spec (code : Nat) :
    classify code =
      if Spec.closeCodeForbidden code then 1002
      else if 3000 ≤ code ∧ code ≤ 4999 then code else 1000 := by
  simp only [classify_eq, List.mem_cons, List.not_mem_nil, or_false]
  repeat' split
  all_goals (unfold Spec.closeCodeForbidden at *; omega)

theorem checkEncoding_close (utf8 : Bool) (reason : Bytes) :
    Utf8.checkEncoding utf8 Facts.opClose reason = (!utf8 || Spec.Utf8.valid reason) := by
  unfold Utf8.checkEncoding
  have : Facts.opClose = 8 := rfl
  rw [this]
  cases utf8 <;> simp

theorem emitClose_spec (utf8 : Bool) (body : Bytes) :
    (Reader.End.peerClose (emitClose utf8 body)).replyStatus ∈ Spec.closeReplies utf8 body ∧
    ((emitClose utf8 body).realCode, (emitClose utf8 body).reason) = Spec.closeSeen body := by
  match body with
  | [] => simp [emitClose, Spec.closeReplies, Spec.closeSeen, Reader.End.replyStatus]
  | [x] =>
    have : Facts.closeProtocolError = 1002 := rfl
    simp [emitClose, Spec.closeReplies, Spec.closeSeen, Reader.End.replyStatus, this]
  | a :: b :: reason =>
    have h7 : Facts.closeUnsupportedData = 1007 := rfl
    simp only [emitClose, Spec.closeReplies, Spec.closeSeen, Reader.End.replyStatus, checkEncoding_close, be16_eq,
      classify_spec, h7, and_true]
    generalize a.toNat * 256 + b.toNat = n
    -- the status answered is never 0, so a reply is sent; which one, by the three tests of the table
    by_cases hbad : utf8 = true ∧ ¬Spec.Utf8.valid reason = true
    · simp [hbad]
    · have e : (!(!utf8 || Spec.Utf8.valid reason)) = false := by
        cases utf8 <;> simp_all
      simp only [e, hbad, Bool.false_eq_true, if_false]
      by_cases hf : Spec.closeCodeForbidden n
      · simp [hf]
      · by_cases hr : 3000 ≤ n ∧ n ≤ 4999
        · simp only [hf, hr, and_self, if_true, if_false]
          rw [if_neg (by omega)]; simp
        · simp [hf, hr]

end Close
