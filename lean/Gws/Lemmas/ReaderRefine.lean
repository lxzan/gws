import Gws.Lemmas.ReaderStep
import Gws.Lemmas.ReaderHdr
import Gws.Lemmas.Close
import Gws.Props.C17
/-! # One `readMessage` refines one step of the RFC receiver spec

The window after a write (`Win.write_spec`, `Win.write_length_le`) is C17's, hence the import of Props/C17. -/

namespace Reader

/-- In `cont`, the open message carries two facts the spec's state has no counterpart of: its opcode is Text or Binary,
because the model's gate tests `opcode = 1 ∨ opcode = 8` where the spec tests `opcode = 1` (`checkEncoding_data`); and the
buffer is within the limit, which every step establishes from its own size test and no proof takes out again. -/
structure Rel (cfg : Cfg) (st : State) (sst : Spec.RxState) : Prop where
  cont : (st.cont.initialized = false ∧ sst.inMsg = none) ∨
    (st.cont.initialized = true ∧
      sst.inMsg = some { opcode := st.cont.opcode, compressed := st.cont.compressed, acc := st.cont.buffer } ∧
      (st.cont.opcode = 1 ∨ st.cont.opcode = 2) ∧ (st.cont.buffer.length : Int) ≤ cfg.readMax)
  dictOn : st.dps.enabled = true → st.dps.dict = lastN st.dps.size sst.hist ∧ st.dps.dict.length ≤ st.dps.size
  dictOff : st.dps.enabled = false → st.dps.dict = []

def StepRel (cfg : Cfg) (w : Win) : Spec.Step → Step → Prop
  | .ok s' sevs srest, .ok st' evs rest =>
    evs.map Ev.toSpec = sevs ∧ rest = srest ∧ Rel cfg st' s' ∧
      st'.dps.enabled = w.enabled ∧ st'.dps.size = w.size
  | .stop se, .stop evs e => evs = [] ∧ endOk se e = true
  | _, _ => False

theorem StepRel.stop_iff {cfg : Cfg} {w : Win} {se : Spec.Ending} {evs : List Ev} {e : End} :
    StepRel cfg w (.stop se) (.stop evs e) ↔ (evs = [] ∧ endOk se e = true) := Iff.rfl

theorem StepRel.ok_iff {cfg : Cfg} {w : Win} {st' : State} {s' : Spec.RxState} {sevs : List Spec.Ev} {evs : List Ev}
    {srest rest : Bytes} :
    StepRel cfg w (.ok s' sevs srest) (.ok st' evs rest) ↔
      (evs.map Ev.toSpec = sevs ∧ rest = srest ∧ Rel cfg st' s' ∧
        st'.dps.enabled = w.enabled ∧ st'.dps.size = w.size) := Iff.rfl

theorem StepRel.ite {cfg : Cfg} {w : Win} {c : Prop} [Decidable c] {a b : Spec.Step} {a' b' : Step}
    (ht : c → StepRel cfg w a a') (he : ¬ c → StepRel cfg w b b') :
    StepRel cfg w (if c then a else b) (if c then a' else b') := by
  split
  · exact ht ‹_›
  · exact he ‹_›

/-- `specData` and `specBody` cut `Spec.step` into the pieces the
model's functions correspond to by repeating its text; `spec_step_eq` (a `rfl`) holds them to it, so a change to the spec
is to be repeated here. -/
def specData (ctx : Spec.Ctx) (codec : Codec) (s : Spec.RxState) (h : Spec.Hdr) (payload rest' : Bytes) : Spec.Step :=
  match s.inMsg with
  | none =>
    if h.opcode = 0 then .stop (.fail [1002] false)
    else if h.fin then Spec.finish ctx codec s h.opcode (ctx.ext && h.rsv1) payload rest'
    else if (payload.length : Int) > ctx.limit then .stop (.fail [1009] false)
    else .ok { s with inMsg := some { opcode := h.opcode, compressed := ctx.ext && h.rsv1, acc := payload } } [] rest'
  | some m =>
    if h.opcode ≠ 0 then .stop (.fail [1002] false)
    else
      let acc := m.acc ++ payload
      if (acc.length : Int) > ctx.limit then .stop (.fail [1009] false)
      else if h.fin then Spec.finish ctx codec s m.opcode m.compressed acc rest'
      else .ok { s with inMsg := some { m with acc := acc } } [] rest'

def specBody (ctx : Spec.Ctx) (codec : Codec) (s : Spec.RxState) (h : Spec.Hdr) (rest : Bytes) : Spec.Step :=
  let v := Spec.hdrViolations ctx h
  if v ≠ [] then .stop (.fail v (decide (rest.length < h.len)))
  else if rest.length < h.len then .stop .eof
  else
    let payload := if h.masked then Spec.unmask h.key (rest.take h.len) else rest.take h.len
    let rest' := rest.drop h.len
    if h.opcode = 9 then .ok s [.ping payload] rest'
    else if h.opcode = 10 then .ok s [.pong payload] rest'
    else if h.opcode = 8 then
      let (code, reason) := Spec.closeSeen payload
      .stop (.peerClose code reason (Spec.closeReplies ctx.utf8 payload))
    else specData ctx codec s h payload rest'

theorem spec_step_eq (ctx : Spec.Ctx) (codec : Codec) (s : Spec.RxState) (b : Bytes) :
    Spec.step ctx codec s b =
      match Spec.decodeHdr b with
      | none => .stop .eof
      | some (h, rest) => specBody ctx codec s h rest := rfl

theorem checkEncoding_data (u : Bool) (opcode : Nat) (d : Bytes) (hop : opcode = 1 ∨ opcode = 2) :
    (!Utf8.checkEncoding u opcode d) = true ↔ (opcode = 1 ∧ u = true ∧ ¬ Spec.Utf8.valid d = true) := by
  unfold Utf8.checkEncoding
  rcases hop with rfl | rfl <;> cases u <;> simp

theorem dictOf_eq (cfg : Cfg) (st : State) (s : Spec.RxState)
    (hon : st.dps.enabled = true → st.dps.dict = lastN st.dps.size s.hist ∧ st.dps.dict.length ≤ st.dps.size)
    (hoff : st.dps.enabled = false → st.dps.dict = []) :
    Spec.dictOf (specCtx cfg st) s.hist = st.dps.dict := by
  unfold Spec.dictOf specCtx
  cases he : st.dps.enabled
  · simp [hoff he]
  · simp [(hon he).1]

theorem emitMessage_refines (cfg : Cfg) (codec : Codec) (st : State) (s : Spec.RxState) (opcode : Nat)
    (data : Bytes) (compressed : Bool) (rest : Bytes)
    (hon : st.dps.enabled = true → st.dps.dict = lastN st.dps.size s.hist ∧ st.dps.dict.length ≤ st.dps.size)
    (hoff : st.dps.enabled = false → st.dps.dict = [])
    (hinit : st.cont.initialized = false)
    (hop : opcode = 1 ∨ opcode = 2) :
    StepRel cfg st.dps (Spec.finish (specCtx cfg st) codec s opcode compressed data rest)
      (.ofEmit rest (emitMessage cfg codec st opcode data compressed)) := by
  unfold Spec.finish
  rw [dictOf_eq cfg st s hon hoff]
  have hlim : (specCtx cfg st).limit = cfg.readMax := rfl
  have hutf : (specCtx cfg st).utf8 = cfg.checkUtf8 := rfl
  have hkeep : (specCtx cfg st).keepCtx = st.dps.enabled := rfl
  rw [hlim, hutf, hkeep]
  fun_cases emitMessage cfg codec st opcode data compressed
  -- rejected by the encoding gate (inflated / as it is)
  case case1 hc out hd hv =>
    simp only [hc, hd, if_true, if_pos ((checkEncoding_data _ _ _ hop).mp hv)]
    exact ⟨rfl, by decide⟩
  case case4 hc hv =>
    simp only [hc, if_pos ((checkEncoding_data _ _ _ hop).mp hv)]
    exact ⟨rfl, by decide⟩
  -- inflated and delivered: the window slides over the output
  case case2 hc out hd _ hv =>
    simp only [hc, hd, if_true, if_neg (fun h => hv ((checkEncoding_data _ _ _ hop).mpr h))]
    have hf := Win.write_frame st.dps out
    refine ⟨rfl, rfl, ⟨Or.inl ⟨hinit, rfl⟩, ?_, ?_⟩, hf.1, hf.2⟩
    · intro he
      rw [show (_ : State).dps.enabled = st.dps.enabled from hf.1] at he
      obtain ⟨h1, h2⟩ := hon he
      refine ⟨?_, Win.write_length_le _ _ he h2⟩
      show (st.dps.write out).dict = lastN (st.dps.write out).size _
      rw [Win.write_spec _ _ he h2, hf.2, h1, lastN_lastN_append, he]
      simp
    · intro he
      rw [show (_ : State).dps.enabled = st.dps.enabled from hf.1] at he
      show (st.dps.write out).dict = []
      rw [Win.write_off _ _ he]; exact hoff he
  -- does not inflate, or inflates beyond the limit
  case case3 hc hno =>
    simp only [hc, if_true]
    cases hd : codec.decompress cfg.readMax st.dps.dict data with
    | ok out => exact (hno out hd).elim
    | libError | tooLarge => exact ⟨rfl, by decide⟩
  case case5 hc hv =>
    simp only [hc, if_neg (fun h => hv ((checkEncoding_data _ _ _ hop).mpr h))]
    exact ⟨rfl, rfl, ⟨Or.inl ⟨hinit, rfl⟩, hon, hoff⟩, rfl, rfl⟩

theorem afterPayload_refines (cfg : Cfg) (codec : Codec) (st : State) (s : Spec.RxState) (h : Frame.Hdr)
    (sh : Spec.Hdr) (p rest : Bytes) (hrel : Rel cfg st s) (hh : HdrRel h sh)
    (hop : Frame.getOpcode h.b0 ≤ 2) :
    StepRel cfg st.dps (specData (specCtx cfg st) codec s sh p rest) (afterPayload cfg codec st h p rest) := by
  rw [afterPayload_eq]
  unfold specData
  rw [hh.opcode, hh.fin, hh.rsv1]
  -- with or without a message in progress, both sides go through the same tests in the same order
  rcases hrel.cont with ⟨hi, hm⟩ | ⟨hi, hm, hcop, _⟩
  · rw [if_neg (Bool.eq_false_iff.mp hi), hm]
    refine .ite (fun _ => ⟨rfl, by decide⟩) fun (h0 : Frame.getOpcode h.b0 ≠ 0) => ?_
    have hop' : Frame.getOpcode h.b0 = 1 ∨ Frame.getOpcode h.b0 = 2 := by omega
    refine .ite (fun _ => emitMessage_refines cfg codec st s _ p _ rest hrel.dictOn hrel.dictOff hi hop') fun _ => ?_
    refine .ite (fun _ => ⟨rfl, by decide⟩) fun hle => ?_
    exact ⟨rfl, rfl, ⟨.inr ⟨rfl, rfl, hop', Int.not_lt.mp hle⟩, hrel.dictOn, hrel.dictOff⟩, rfl, rfl⟩
  · rw [if_pos hi, hm]
    refine .ite (fun _ => ⟨rfl, by decide⟩) fun _ => .ite (fun _ => ⟨rfl, by decide⟩) fun hle => ?_
    refine .ite (fun _ => emitMessage_refines cfg codec { dps := st.dps } s _ _ _ rest hrel.dictOn hrel.dictOff rfl hcop)
      fun _ => ?_
    exact ⟨rfl, rfl, ⟨.inr ⟨hi, rfl, hcop, Int.not_lt.mp hle⟩, hrel.dictOn, hrel.dictOff⟩, rfl, rfl⟩

/-- what remains of the spec's violation set once the model's `headerCheck` has passed: the rules
the model only applies later, in `readControl` -/
def hdrV (op lenForm : Nat) (fin : Bool) : List Nat :=
  (if ¬ Spec.knownOpcode op then [1002] else []) ++
  (if Spec.isControl op ∧ (¬ fin ∨ lenForm ≠ 7) then [1002] else [])

theorem hdrV_bad (op lenForm : Nat) (fin : Bool) (hop : op > 2)
    (h : fin = false ∨ lenForm ≠ 7 ∨ (op ≠ 8 ∧ op ≠ 9 ∧ op ≠ 10)) : 1002 ∈ hdrV op lenForm fin := by
  unfold hdrV Spec.knownOpcode Spec.isControl
  grind

theorem hdrV_good (op lenForm : Nat) (fin : Bool)
    (h : op ≤ 2 ∨ (fin = true ∧ lenForm = 7 ∧ (op = 8 ∨ op = 9 ∨ op = 10))) : hdrV op lenForm fin = [] := by
  unfold hdrV Spec.knownOpcode Spec.isControl
  grind

theorem hdrV_mem (op lenForm : Nat) (fin : Bool) (x : Nat) (h : x ∈ hdrV op lenForm fin) : x = 1002 := by
  unfold hdrV at h
  simp only [List.mem_append] at h
  rcases h with h | h <;> split at h <;> simp at h <;> exact h

theorem endOk_fail_status (V : List Nat) (io : Bool) (c : Nat) (h : c ∈ V) :
    endOk (.fail V io) (.err (.status c)) = true := by
  simp [endOk, Close.ReadErr.sendCode, h]

theorem endOk_fail_coded (V : List Nat) (io : Bool) (c : Nat) (h : c ∈ V) :
    endOk (.fail V io) (.err (.coded c)) = true := by
  simp [endOk, Close.ReadErr.sendCode, h]

theorem endOk_fail_io (V : List Nat) : endOk (.fail V true) (.err .other) = true := by
  simp [endOk]

theorem endOk_eof : endOk .eof (.err .other) = true := by
  simp [endOk]

theorem StepRel.violation {cfg : Cfg} {w : Win} {ctx : Spec.Ctx} {codec : Codec} {s : Spec.RxState} {sh : Spec.Hdr}
    {rest : Bytes} {c : Nat} {e : End} (hm : c ∈ Spec.hdrViolations ctx sh)
    (he : e = .err (.status c) ∨ e = .err (.coded c) ∨ (e = ioErr ∧ rest.length < sh.len)) :
    StepRel cfg w (specBody ctx codec s sh rest) (.stop [] e) := by
  unfold specBody
  simp only
  rw [if_pos (List.ne_nil_of_mem hm)]
  refine ⟨rfl, ?_⟩
  rcases he with rfl | rfl | ⟨rfl, hs⟩
  · exact endOk_fail_status _ _ c hm
  · exact endOk_fail_coded _ _ c hm
  · rw [decide_eq_true hs]
    exact endOk_fail_io _

theorem toGoInt_neg_iff (v : Nat) (hv : v < 2 ^ 64) : Frame.toGoInt v < 0 ↔ v ≥ 2 ^ 63 := by
  unfold Frame.toGoInt
  split <;> omega

theorem toGoInt_of_lt (v : Nat) (hv : v < 2 ^ 63) : Frame.toGoInt v = v := by
  unfold Frame.toGoInt
  split <;> omega

theorem HdrRel.len_cases {h : Frame.Hdr} {sh : Spec.Hdr} (hh : HdrRel h sh) :
    (sh.lenForm = 64 ∧ sh.len ≥ 2 ^ 63 ∧ h.len < 0) ∨
      (¬ (sh.lenForm = 64 ∧ sh.len ≥ 2 ^ 63) ∧ h.len = (sh.len : Int)) := by
  have hlen := hh.len
  by_cases h64 : sh.lenForm = 64
  · rw [if_pos h64] at hlen
    by_cases hbig : sh.len ≥ 2 ^ 63
    · exact .inl ⟨h64, hbig, hlen ▸ (toGoInt_neg_iff _ hh.len_lt).mpr hbig⟩
    · exact .inr ⟨fun h => hbig h.2, by rw [hlen, toGoInt_of_lt _ (by omega)]⟩
  · rw [if_neg h64] at hlen
    exact .inr ⟨fun h => h64 h.1, hlen⟩

/-- the model returns at its first failing check, where the spec collects every rule the header breaks -/
theorem headerCheck_refines {cfg : Cfg} (st : State) {h : Frame.Hdr} {sh : Spec.Hdr} (hh : HdrRel h sh) :
    match headerCheck cfg h with
    | some e => ∃ c, e = .err (.status c) ∧ c ∈ Spec.hdrViolations (specCtx cfg st) sh
    | none => h.len = (sh.len : Int) ∧ Spec.hdrViolations (specCtx cfg st) sh = hdrV sh.opcode sh.lenForm sh.fin := by
  have hmask : cfg.isServer ≠ sh.masked ↔
      (cfg.isServer = true ∧ ¬ Frame.getMask h.b1 = true) ∨ (¬ cfg.isServer = true ∧ Frame.getMask h.b1 = true) := by
    rw [hh.masked]; cases cfg.isServer <;> cases Frame.getMask h.b1 <;> decide
  have hsrv : (specCtx cfg st).isServer = cfg.isServer := rfl
  have hext : (specCtx cfg st).ext = cfg.pdEnabled := rfl
  have hlim : (specCtx cfg st).limit = cfg.readMax := rfl
  unfold Spec.hdrViolations
  simp only [hsrv, hext, hlim, hmask, hh.rsv1, hh.rsv2, hh.rsv3, hh.opcode]
  fun_cases headerCheck cfg h
  case case1 hl =>
    refine ⟨1009, rfl, ?_⟩
    rcases hh.len_cases with ⟨h64, hbig, _⟩ | ⟨_, he⟩
    · simp [h64, hbig]
    · simp [show cfg.readMax < (sh.len : Int) by omega]
  case case2 hr =>
    rw [show Facts.opText = 1 from rfl, show Facts.opBinary = 2 from rfl] at hr
    exact ⟨1002, rfl, by rw [if_pos hr]; simp⟩
  case case3 hm => exact ⟨1002, rfl, by rw [if_pos hm]; simp⟩
  case case4 hl _ hr _ hm =>
    rcases hh.len_cases with ⟨_, _, hneg⟩ | ⟨hbig, he⟩
    · omega
    · refine ⟨he, ?_⟩
      rw [show Facts.opText = 1 from rfl, show Facts.opBinary = 2 from rfl] at hr
      rw [if_neg hm, if_neg hr, if_neg hbig, if_neg (show ¬ (sh.len : Int) > cfg.readMax by omega)]
      simp [hdrV]

theorem payload_eq (h : Frame.Hdr) (sh : Spec.Hdr) (hh : HdrRel h sh) (raw : Bytes) :
    (if Frame.getMask h.b1 = true then unmask h.key raw else raw) =
    (if sh.masked = true then Spec.unmask sh.key raw else raw) := by
  rw [hh.masked, hh.key]
  split
  · rename_i hm
    exact Writer.unmask_eq_spec _ _ (hh.key_length hm)
  · rfl

theorem readControl_refines (cfg : Cfg) (codec : Codec) (st : State) (s : Spec.RxState) (h : Frame.Hdr)
    (sh : Spec.Hdr) (rest : Bytes) (hrel : Rel cfg st s) (hh : HdrRel h sh)
    (hop : Frame.getOpcode h.b0 > 2)
    (hv : Spec.hdrViolations (specCtx cfg st) sh = hdrV sh.opcode sh.lenForm sh.fin) :
    StepRel cfg st.dps (specBody (specCtx cfg st) codec s sh rest) (readControl cfg st h rest) := by
  have hopc := hh.opcode
  have hfin := hh.fin
  have hform := hh.form
  -- a control frame the spec objects to (`hdrV_bad`), at whichever of its checks the model stops
  have bad : (sh.fin = false ∨ sh.lenForm ≠ 7 ∨ (sh.opcode ≠ 8 ∧ sh.opcode ≠ 9 ∧ sh.opcode ≠ 10)) → ∀ e : End,
      (e = .err (.status 1002) ∨ e = .err (.coded 1002) ∨ (e = ioErr ∧ rest.length < sh.len)) →
      StepRel cfg st.dps (specBody (specCtx cfg st) codec s sh rest) (.stop [] e) :=
    fun hb e he => StepRel.violation (hv ▸ hdrV_bad _ _ _ (by omega) hb) he
  unfold readControl
  simp only [show Facts.thresholdV1 = 125 from rfl, show Facts.opPing = 9 from rfl, show Facts.opPong = 10 from rfl,
    show Facts.opClose = 8 from rfl]
  cases hf : Frame.getFIN h.b0
  · exact bad (.inl (hfin ▸ hf)) _ (.inl rfl)
  by_cases hn : Frame.getLengthCode h.b1 > 125
  · rw [if_neg (by simp), if_pos hn]
    exact bad (.inr (.inl (by omega))) _ (.inl rfl)
  obtain ⟨h7, hlen⟩ : sh.lenForm = 7 ∧ Frame.getLengthCode h.b1 = sh.len := by omega
  rw [if_neg (by simp), if_neg hn, hlen, ← hopc]
  by_cases hgood : sh.opcode = 8 ∨ sh.opcode = 9 ∨ sh.opcode = 10
  · unfold specBody
    simp only [hv, hdrV_good _ _ _ (.inr ⟨hfin ▸ hf, h7, hgood⟩), ne_eq, not_true_eq_false, if_false,
      show (specCtx cfg st).utf8 = cfg.checkUtf8 from rfl]
    refine .ite (fun _ => ⟨rfl, endOk_eof⟩) fun hfull => ?_
    rw [unmask_guard _ _ _ _ (List.length_take_of_le (Nat.le_of_not_lt hfull)), payload_eq h sh hh]
    generalize (if sh.masked = true then Spec.unmask sh.key (rest.take sh.len) else rest.take sh.len) = payload
    rcases hgood with hg | hg | hg
    · simp only [hg, Nat.reduceEqDiff, if_false, if_true]
      have := Close.emitClose_spec cfg.checkUtf8 payload
      refine ⟨rfl, ?_⟩
      simp only [endOk, Bool.and_eq_true, decide_eq_true_eq]
      rw [← this.2]
      exact ⟨⟨rfl, rfl⟩, this.1⟩
    · simp only [hg, if_true]
      exact ⟨rfl, rfl, hrel, rfl, rfl⟩
    · simp only [hg, Nat.reduceEqDiff, if_false, if_true]
      exact ⟨rfl, rfl, hrel, rfl, rfl⟩
  · by_cases hshort : rest.length < sh.len
    · rw [if_pos hshort]
      exact bad (.inr (.inr (by omega))) _ (.inr (.inr ⟨rfl, hshort⟩))
    · rw [if_neg hshort, if_neg (by omega), if_neg (by omega), if_neg (by omega)]
      exact bad (.inr (.inr (by omega))) _ (.inr (.inl rfl))

theorem dataFrame_refines (cfg : Cfg) (codec : Codec) (st : State) (s : Spec.RxState) (h : Frame.Hdr)
    (sh : Spec.Hdr) (rest : Bytes) (hrel : Rel cfg st s) (hh : HdrRel h sh)
    (hop : ¬ Frame.getOpcode h.b0 > 2) (hlen : h.len = (sh.len : Int))
    (hv : Spec.hdrViolations (specCtx cfg st) sh = hdrV sh.opcode sh.lenForm sh.fin) :
    StepRel cfg st.dps (specBody (specCtx cfg st) codec s sh rest) (dataFrame cfg codec st h rest) := by
  have hopc := hh.opcode
  have hn : h.len.toNat = sh.len := by omega
  rw [dataFrame_eq, hn, payload_eq h sh hh]
  unfold specBody
  simp only [hv, hdrV_good sh.opcode sh.lenForm sh.fin (Or.inl (by omega)), ne_eq, not_true_eq_false, if_false]
  refine .ite (fun _ => ⟨rfl, endOk_eof⟩) fun _ => ?_
  simp only [show ¬ sh.opcode = 9 by omega, show ¬ sh.opcode = 10 by omega, show ¬ sh.opcode = 8 by omega, if_false]
  exact afterPayload_refines cfg codec st s h sh _ _ hrel hh (by omega)

theorem step_refines (cfg : Cfg) (codec : Codec) (st : State) (s : Spec.RxState) (b : Bytes)
    (hrel : Rel cfg st s) :
    StepRel cfg st.dps (Spec.step (specCtx cfg st) codec s b) (step cfg codec st b) := by
  rw [spec_step_eq]
  unfold step
  have hp := parse_spec b
  generalize Frame.parse b = x at hp
  generalize Spec.decodeHdr b = y at hp
  cases hp with
  | needMore => exact ⟨rfl, endOk_eof⟩
  | ok h sh rest hh =>
    have hcr := headerCheck_refines (cfg := cfg) st hh
    simp only
    cases hc : headerCheck cfg h with
    | some e =>
      rw [hc] at hcr
      obtain ⟨c, rfl, hm⟩ := hcr
      exact StepRel.violation hm (.inl rfl)
    | none =>
      rw [hc] at hcr
      simp only
      split
      · rename_i hop
        exact readControl_refines cfg codec st s h sh rest hrel hh hop hcr.2
      · rename_i hop
        exact dataFrame_refines cfg codec st s h sh rest hrel hh hop hcr.1 hcr.2

end Reader
