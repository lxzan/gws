import Gws.Lemmas.WriterFile
import Gws.Lemmas.Pool
/-!
# The `flateWriter` aggregator of writefile.go

`held w` is everything the buffers hold, in order.  `plan_spec` is conservation (emitted ++ held = held before ++ fed),
the frame count, and the hold-back invariant: once a frame has been emitted at least four bytes stay behind, so the final
`00 00 ff ff` can only be in the frame written by `Flush`.
-/

namespace Writer

def held (w : FlateWriter) : Bytes := (w.buffers.map (·.data)).flatten

theorem write_concat (idx : Nat) (init : List Buf) (t : Buf) (p : Bytes) :
    (⟨idx, init ++ [t]⟩ : FlateWriter).write p =
      if t.data.length + p.length + Facts.frameHeaderSize > t.cap then
        ⟨idx, init ++ [t] ++ [{ cap := Pool.cap (max Facts.segmentSize p.length), data := p }]⟩
      else ⟨idx, init ++ [{ t with data := t.data ++ p }]⟩ := by
  have hl : ¬ (init ++ [t]).length = 0 := by simp
  simp only [FlateWriter.write, hl, ↓reduceIte, List.getLast?_concat, List.dropLast_concat]

theorem write_nil (idx : Nat) (p : Bytes) :
    (⟨idx, []⟩ : FlateWriter).write p =
      (⟨idx, [] ++ [{ cap := Pool.cap (max Facts.segmentSize p.length), data := [] }]⟩ : FlateWriter).write p := by
  simp [FlateWriter.write]

theorem write_spec (w : FlateWriter) (p : Bytes) :
    held (w.write p) = held w ++ p ∧ (w.write p).index = w.index ∧ (w.write p).buffers ≠ [] := by
  obtain ⟨idx, bufs⟩ := w
  rcases List.eq_nil_or_concat bufs with rfl | ⟨init, t, rfl⟩
  · rw [write_nil, write_concat]; split <;> simp [held]
  · rw [List.concat_eq_append, write_concat]; split <;> simp [held]

/-- hence `write` never makes a `bytes.Buffer` reallocate (a fresh buffer has capacity `Pool.cap (max segmentSize len(p)) ≥
len(p)`), and `Cap()`, which only `write` consults, is the constant the model carries -/
theorem write_fits (w : FlateWriter) (p : Bytes) (h : ∀ b ∈ w.buffers, b.data.length ≤ b.cap) :
    ∀ b ∈ (w.write p).buffers, b.data.length ≤ b.cap := by
  have hcap : p.length ≤ Pool.cap (max Facts.segmentSize p.length) :=
    Nat.le_trans (Nat.le_max_right _ _) (Pool.cap_ge _)
  have key : ∀ idx init t, (∀ b ∈ init ++ [t], b.data.length ≤ b.cap) →
      ∀ b ∈ ((⟨idx, init ++ [t]⟩ : FlateWriter).write p).buffers, b.data.length ≤ b.cap := by
    intro idx init t h
    rw [write_concat]
    split
    · simp only [List.forall_mem_append, List.forall_mem_singleton] at h ⊢
      exact ⟨h, hcap⟩
    · simp only [List.forall_mem_append, List.forall_mem_singleton, List.length_append] at h ⊢
      exact ⟨h.1, by omega⟩
  obtain ⟨idx, bufs⟩ := w
  rcases List.eq_nil_or_concat bufs with rfl | ⟨init, t, rfl⟩
  · rw [write_nil]; exact key idx [] _ (by simp)
  · rw [List.concat_eq_append] at h ⊢; exact key idx init t h

theorem shouldCall_spec (w : FlateWriter) (h : w.shouldCall = true) :
    ∃ b0 rest, w.buffers = b0 :: rest ∧ rest ≠ [] ∧ 4 ≤ ((rest.map (·.data)).flatten).length := by
  unfold FlateWriter.shouldCall at h
  simp only at h
  split at h
  · exact absurd h (by simp)
  · rename_i hn
    match hb : w.buffers with
    | [] => simp [hb] at hn
    | [_] => simp [hb] at hn
    | b0 :: b1 :: r =>
      refine ⟨b0, b1 :: r, rfl, by simp, ?_⟩
      rw [hb] at h
      simp only [List.drop_succ_cons, List.drop_zero, decide_eq_true_eq] at h
      rw [List.length_flatten, List.map_map]
      exact h

/-- the payloads the aggregator hands to the callback while it is fed `outs` (callback errors aside) -/
def plan : FlateWriter → List Bytes → FlateWriter × List Bytes
  | w, [] => (w, [])
  | w, p :: ps =>
    let w1 := w.write p
    if w1.shouldCall then
      match w1.buffers with
      | [] => (w1, [])
      | b0 :: rest =>
        let r := plan { index := w1.index + 1, buffers := rest } ps
        (r.1, b0.data :: r.2)
    else plan w1 ps

/-- The hold-back clause is wanted for `w = {}` as `plan ≠ [] → 4 ≤ held`; `4 ≤ held w ∨ …` is what goes through the
induction (once four bytes are held they stay). -/
theorem plan_spec (outs : List Bytes) (w : FlateWriter) :
    (plan w outs).2.flatten ++ held (plan w outs).1 = held w ++ outs.flatten ∧
    (plan w outs).1.index = w.index + (plan w outs).2.length ∧
    (4 ≤ (held w).length ∨ (plan w outs).2 ≠ [] → 4 ≤ (held (plan w outs).1).length) ∧
    ((w.buffers ≠ [] ∨ outs ≠ []) → (plan w outs).1.buffers ≠ []) := by
  fun_induction plan w outs with
  | case1 w => simp
  | case2 w p ps w1 hs hb =>
    obtain ⟨b0, rest, hb', -, -⟩ := shouldCall_spec _ hs
    rw [hb] at hb'; cases hb'
  | case3 w p ps w1 hs b0 rest hb r ih =>
    obtain ⟨hw1, hw2, -⟩ : held w1 = held w ++ p ∧ w1.index = w.index ∧ _ := write_spec w p
    simp only [r] at ih ⊢
    obtain ⟨_, _, hb', hrest, h4⟩ := shouldCall_spec _ hs
    rw [hb] at hb'; cases hb'
    obtain ⟨i1, i2, i3, i4⟩ := ih
    have hheld : held w1 = b0.data ++ held { index := w1.index + 1, buffers := rest } := by simp [held, hb]
    -- a frame goes out only when `shouldCall`: at least four bytes lie behind the first buffer (`h4`), and those stay held
    refine ⟨?_, ?_, fun _ => i3 (.inl (by simpa [held] using h4)), fun _ => i4 (Or.inl hrest)⟩
    · simp only [List.flatten_cons, List.append_assoc]
      rw [i1, ← List.append_assoc, ← hheld, hw1]
      simp
    · rw [i2]; simp only [List.length_cons]; omega
  | case4 w p ps w1 hs ih =>
    obtain ⟨hw1, hw2, hw3⟩ : held w1 = held w ++ p ∧ w1.index = w.index ∧ w1.buffers ≠ [] := write_spec w p
    obtain ⟨i1, i2, i3, i4⟩ := ih
    refine ⟨by rw [i1, hw1]; simp, by rw [i2, hw2], fun h => i3 (h.imp (fun h4 => ?_) id), fun _ => i4 (Or.inl hw3)⟩
    rw [hw1, List.length_append]
    omega

theorem feed_eq (cb : Nat → Bool → Bytes → Except WErr Bytes) (g : Nat → Bool → Bytes → Bytes) (L : Nat)
    (hcb : ∀ i e p, p.length ≤ L → cb i e p = .ok (g i e p)) (outs : List Bytes) (w : FlateWriter)
    (hL : ∀ d ∈ (plan w outs).2, d.length ≤ L) :
    feed cb w outs = ((plan w outs).1, framesOf g w.index ((plan w outs).2.map (·, false)), none) := by
  fun_induction plan w outs with
  | case1 w => simp [feed, framesOf]
  | case2 w p ps w1 hs hb =>
    obtain ⟨b0, rest, hb', -, -⟩ := shouldCall_spec _ hs
    rw [hb] at hb'; cases hb'
  | case3 w p ps w1 hs b0 rest hb r ih =>
    have hw2 := (write_spec w p).2.1
    simp only [r, w1] at hs hb ih hL ⊢
    rw [feed]
    simp only [hs, ↓reduceIte, hb, hcb _ false b0.data (hL _ (by simp)), ih (fun d hd => hL d (by simp [hd]))]
    simp [framesOf, hw2]
  | case4 w p ps w1 hs ih =>
    have hw2 := (write_spec w p).2.1
    simp only [w1] at hs ih hL ⊢
    rw [feed]
    simp only [hs, Bool.false_eq_true, ↓reduceIte, ih hL, hw2]

theorem flush_eq (cb : Nat → Bool → Bytes → Except WErr Bytes) (w : FlateWriter) (h : w.buffers ≠ []) :
    w.flush cb = cb w.index true (stripTail (held w)) := by
  unfold FlateWriter.flush held
  match hb : w.buffers with
  | [] => exact absurd hb h
  | b0 :: rest => simp

/-- the script the aggregator turns the compressor's `Write` calls into; the final chunk is what `Flush` sends -/
def planScript (outs : List Bytes) : ReaderScript :=
  (plan {} outs).2.map (·, false) ++ [(stripTail (held (plan {} outs).1), true)]

theorem readChunks_planScript (outs : List Bytes) :
    readChunks (planScript outs) = ((plan {} outs).2 ++ [stripTail (held (plan {} outs).1)], true) := by
  rw [planScript, readChunks_append]; simp [readChunks]

theorem planScript_chunks (outs : List Bytes) :
    (readChunks (planScript outs)).2 = true ∧
    (readChunks (planScript outs)).1.flatten = stripTail outs.flatten ∧
    ∀ d ∈ (readChunks (planScript outs)).1, d.length ≤ outs.flatten.length := by
  obtain ⟨p1, -, p3, -⟩ := plan_spec outs {}
  have hheld0 : held ({} : FlateWriter) = [] := rfl
  rw [hheld0, List.nil_append] at p1
  have hlen := congrArg List.length p1
  simp only [List.length_append] at hlen
  have hlast := stripTail_length_le (held (plan {} outs).1)
  rw [readChunks_planScript]
  refine ⟨rfl, ?_, fun d hmem => ?_⟩
  · rw [List.flatten_append, List.flatten_cons, List.flatten_nil, List.append_nil, ← p1]
    by_cases hz : (plan {} outs).2 = []
    · simp [hz]
    · rw [stripTail_append _ _ (p3 (.inr hz))]
  · simp only [List.mem_append, List.mem_cons, List.not_mem_nil, or_false] at hmem
    rcases hmem with h | rfl
    · have := (List.sublist_flatten_of_mem h).length_le; omega
    · omega

theorem compressFile_eq (cb : Nat → Bool → Bytes → Except WErr Bytes) (g : Nat → Bool → Bytes → Bytes) (L : Nat)
    (hcb : ∀ i e p, p.length ≤ L → cb i e p = .ok (g i e p))
    (outs : List Bytes) (hne : outs ≠ []) (hL : outs.flatten.length ≤ L) :
    compressFile cb true outs = (framesOf g 0 (planScript outs), none) := by
  obtain ⟨-, p2, -, p4⟩ := plan_spec outs {}
  have hidx0 : ({} : FlateWriter).index = 0 := rfl
  rw [hidx0, Nat.zero_add] at p2
  have hd := (planScript_chunks outs).2.2
  rw [readChunks_planScript] at hd
  unfold compressFile
  simp only
  rw [feed_eq cb g L hcb outs {} (fun d h => Nat.le_trans (hd d (by simp [h])) hL)]
  simp only [Bool.not_true, Bool.false_eq_true, ↓reduceIte]
  rw [flush_eq cb _ (p4 (Or.inr hne)), hcb _ true _ (Nat.le_trans (hd _ (by simp)) hL)]
  simp only
  rw [planScript, framesOf_append, p2]
  simp [framesOf]

end Writer
