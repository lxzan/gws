import Gws.Model.Writer
import Gws.Spec.Frames
/-!
# `GenerateHeader`'s bytes read back by the RFC 6455 decoder

The bytes are two base bytes, the extended length, the key (`genHeader_layout`).  `Spec.decodeHdr` reads the two
variable-length parts one after the other (`decodeHdr_eq`: `lenPart`, then `keyPart`), so each is read back on its own.
-/

open Frame Spec

namespace Writer

theorem take_drop_left (a b : Bytes) (n : Nat) (h : a.length = n) : (a ++ b).take n = a ∧ (a ++ b).drop n = b := by
  subst h; exact ⟨List.take_left' rfl, List.drop_left' rfl⟩

/-- the 7-bit length code `SetLength` writes, and the extended-length bytes behind it -/
def lenCode (n : Nat) : Nat := if n ≤ 125 then n else if n ≤ 65535 then 126 else 127
def lenExt (n : Nat) : Bytes := if n ≤ 125 then [] else if n ≤ 65535 then u16be n else u64be n

theorem lenCode_lt (n : Nat) : lenCode n < 128 := by
  unfold lenCode; split
  · omega
  · split <;> omega

theorem genHeader_layout (isServer fin c : Bool) (opcode n : Nat) (key : Bytes) :
    genHeader isServer fin c opcode n key =
      UInt8.ofNat ((opcode + (if fin then 128 else 0) + (if c then 64 else 0)) % 256) ::
      UInt8.ofNat (if isServer then lenCode n else lenCode n ||| 128) ::
      (lenExt n ++ (if isServer then [] else key)) := by
  unfold genHeader lenCode lenExt
  simp only [Facts.thresholdV1, Facts.thresholdV2]
  by_cases h1 : n ≤ 125
  · cases isServer <;> simp [h1]
  · by_cases h2 : n ≤ 65535
    · cases isServer <;> simp [h1, h2]
    · cases isServer <;> simp [h1, h2]

theorem genHeader_length (isServer fin c : Bool) (opcode n : Nat) (key : Bytes) (hk : key.length = 4) :
    (Frame.genHeader isServer fin c opcode n key).length ≤ 14 ∧ 2 ≤ (Frame.genHeader isServer fin c opcode n key).length := by
  have : (lenExt n).length ≤ 8 := by
    unfold lenExt; split
    · simp
    · split <;> simp [u16be, u64be]
  rw [genHeader_layout]
  simp only [List.length_cons, List.length_append]
  cases isServer <;> simp only [hk, List.length_nil, Bool.false_eq_true, ↓reduceIte] <;> omega

def lenPart (code : Nat) (r : Bytes) : Option (Nat × Nat × Bytes) :=
  if code = 126 then (if r.length < 2 then none else some (16, beNat (r.take 2), r.drop 2))
  else if code = 127 then (if r.length < 8 then none else some (64, beNat (r.take 8), r.drop 8))
  else some (7, code, r)

def keyPart (masked : Bool) (r : Bytes) : Option (Bytes × Bytes) :=
  if masked then (if r.length < 4 then none else some (r.take 4, r.drop 4)) else some ([], r)

theorem decodeHdr_eq (x0 x1 : UInt8) (r : Bytes) :
    decodeHdr (x0 :: x1 :: r) =
      (lenPart (x1.toNat % 128) r).bind fun (form, len, r1) =>
        (keyPart (x1.toNat / 128 = 1) r1).map fun (key, r2) =>
          ({ fin := x0.toNat / 128 = 1, rsv1 := x0.toNat / 64 % 2 = 1, rsv2 := x0.toNat / 32 % 2 = 1,
             rsv3 := x0.toNat / 16 % 2 = 1, opcode := x0.toNat % 16, masked := x1.toNat / 128 = 1,
             lenForm := form, len := len, key := key }, r2) := by
  unfold decodeHdr keyPart
  simp only
  show (match lenPart (x1.toNat % 128) r with | none => none | some (form, len, r1) => _) = _
  cases lenPart (x1.toNat % 128) r with
  | none => rfl
  | some v =>
    obtain ⟨form, len, r1⟩ := v
    simp only [Option.bind_some]
    by_cases hm : x1.toNat / 128 = 1
    · simp only [hm, decide_true, ↓reduceIte]; split <;> rfl
    · simp only [hm, decide_false, Bool.false_eq_true, ↓reduceIte, Option.map_some]

theorem keyPart_append (m : Bool) (key r : Bytes) (hk : key.length = if m then 4 else 0) :
    keyPart m (key ++ r) = some (key, r) := by
  unfold keyPart
  cases m
  · rw [List.eq_nil_of_length_eq_zero hk]; rfl
  · have hk : key.length = 4 := hk
    obtain ⟨ht, hd⟩ := take_drop_left key r 4 hk
    rw [if_pos rfl, ht, hd, if_neg (by simp only [List.length_append]; omega)]

theorem toNat_ofNat_mod (x : Nat) : (UInt8.ofNat (x % 256)).toNat = x % 256 := by rw [UInt8.toNat_ofNat']; omega

theorem div_step (n a b : Nat) (hb : b = a * 256) : n / a = n / b * 256 + n / a % 256 := by
  subst hb
  rw [← Nat.div_div_eq_div_mul]; exact (Nat.div_add_mod' (n / a) 256).symm

/-- Horner's scheme, one byte at a time -/
theorem beNat_u64be (n : Nat) (hn : n < 2 ^ 64) : beNat (u64be n) = n := by
  have s0 : n = n / 2 ^ 8 * 256 + n % 256 := (Nat.div_add_mod' n 256).symm
  have s1 := div_step n (2 ^ 8) (2 ^ 16) rfl
  have s2 := div_step n (2 ^ 16) (2 ^ 24) rfl
  have s3 := div_step n (2 ^ 24) (2 ^ 32) rfl
  have s4 := div_step n (2 ^ 32) (2 ^ 40) rfl
  have s5 := div_step n (2 ^ 40) (2 ^ 48) rfl
  have s6 := div_step n (2 ^ 48) (2 ^ 56) rfl
  have s7 : n / 2 ^ 56 % 256 = n / 2 ^ 56 := Nat.mod_eq_of_lt (Nat.div_lt_of_lt_mul hn)
  simp only [u64be, beNat, List.foldl_cons, List.foldl_nil, toNat_ofNat_mod, Nat.zero_mul, Nat.zero_add]
  rw [s7, ← s6, ← s5, ← s4, ← s3, ← s2, ← s1, ← s0]

theorem beNat_u16be (n : Nat) (hn : n ≤ 65535) : beNat (u16be n) = n := by
  simp only [u16be, beNat, List.foldl_cons, List.foldl_nil, toNat_ofNat_mod, Nat.zero_mul, Nat.zero_add]
  omega

theorem lenPart_lenExt (n : Nat) (hn : n < 2 ^ 64) (r : Bytes) :
    lenPart (lenCode n) (lenExt n ++ r) = some (if n ≤ 125 then 7 else if n ≤ 65535 then 16 else 64, n, r) := by
  unfold lenPart lenCode lenExt
  by_cases h1 : n ≤ 125
  · simp only [if_pos h1]
    rw [if_neg (by omega), if_neg (by omega)]; rfl
  · by_cases h2 : n ≤ 65535
    · obtain ⟨ht, hd⟩ := take_drop_left (u16be n) r 2 rfl
      simp only [if_neg h1, if_pos h2, ↓reduceIte, ht, hd, beNat_u16be n h2]; rfl
    · obtain ⟨ht, hd⟩ := take_drop_left (u64be n) r 8 rfl
      simp only [if_neg h1, if_neg h2, ↓reduceIte, ht, hd, beNat_u64be n hn]; rfl

/-- the header an RFC 6455 decoder must read back from `GenerateHeader`'s bytes -/
def sentHdr (isServer fin compress : Bool) (opcode n : Nat) (key : Bytes) : Spec.Hdr :=
  { fin := fin, rsv1 := compress, rsv2 := false, rsv3 := false, opcode := opcode, masked := !isServer,
    lenForm := if n ≤ 125 then 7 else if n ≤ 65535 then 16 else 64,
    len := n, key := if isServer then [] else key }

theorem or128 (b : Nat) (h : b < 128) : b ||| 128 = b + 128 := by
  have := Nat.two_pow_add_eq_or_of_lt (i := 7) (b := b) (by simpa using h) 1
  simp only [Nat.reducePow, Nat.mul_one] at this
  rw [Nat.or_comm, ← this]; omega

/-- the first byte read back: a table of 16 × 2 × 2 bytes -/
theorem b0_fields : ∀ (op : Fin 16) (fin c : Bool),
    let b := (UInt8.ofNat ((op.val + (if fin then 128 else 0) + (if c then 64 else 0)) % 256)).toNat
    decide (b / 128 = 1) = fin ∧ decide (b / 64 % 2 = 1) = c ∧ decide (b / 32 % 2 = 1) = false ∧
      decide (b / 16 % 2 = 1) = false ∧ b % 16 = op.val := by decide

theorem genHeader_decodes_eq (isServer fin compress : Bool) (opcode n : Nat) (key rest : Bytes)
    (hop : opcode < 16) (hn : n < 2 ^ 64) (hk : key.length = 4) :
    Spec.decodeHdr (Frame.genHeader isServer fin compress opcode n key ++ rest) =
      some (sentHdr isServer fin compress opcode n key, rest) := by
  have hc := lenCode_lt n
  obtain ⟨f1, f2, f3, f4, f5⟩ := b0_fields ⟨opcode, hop⟩ fin compress
  have hx1 : (UInt8.ofNat (if isServer then lenCode n else lenCode n ||| 128)).toNat % 128 = lenCode n ∧
      decide ((UInt8.ofNat (if isServer then lenCode n else lenCode n ||| 128)).toNat / 128 = 1) = !isServer := by
    cases isServer
    · rw [if_neg Bool.false_ne_true, or128 _ hc, UInt8.toNat_ofNat']
      exact ⟨by omega, decide_eq_true (by omega)⟩
    · rw [if_pos rfl, UInt8.toNat_ofNat']
      exact ⟨by omega, decide_eq_false (by omega)⟩
  have hkey : (if isServer then [] else key).length = if !isServer then 4 else 0 := by cases isServer <;> simp [hk]
  rw [genHeader_layout, List.cons_append, List.cons_append, List.append_assoc, decodeHdr_eq, hx1.1, hx1.2,
    lenPart_lenExt n hn]
  simp only [Option.bind_some, keyPart_append _ _ _ hkey, Option.map_some, f1, f2, f3, f4, f5, sentHdr]

theorem sentHdr_wf (isServer fin c : Bool) (op n : Nat) (key : Bytes) (hn : n < 2 ^ 63) (hk : key.length = 4) :
    Spec.wellFormedSent (!isServer) (sentHdr isServer fin c op n key) := by
  unfold Spec.wellFormedSent Spec.shortestForm sentHdr
  refine ⟨?_, rfl, ?_, rfl, rfl, hn⟩
  · show (n ≤ 125 ∧ _) ∨ (126 ≤ n ∧ n ≤ 65535 ∧ _) ∨ (65536 ≤ n ∧ _)
    by_cases h1 : n ≤ 125
    · left; exact ⟨h1, by simp [h1]⟩
    · by_cases h2 : n ≤ 65535
      · right; left; exact ⟨by omega, h2, by simp [h1, h2]⟩
      · right; right; exact ⟨by omega, by simp [h1, h2]⟩
  · cases isServer <;> simp [hk]

end Writer
