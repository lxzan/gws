import Gws.Model.ReaderStep
import Gws.Props.C18
import Gws.Spec.Rfc6455
/-!
# `internal.MaskXOR` at the `UInt8` boundary is RFC 6455 §5.3 masking

`Reader.unmask key p` runs the three-loop word model (`Mask.maskXOR`); by C18 (`Mask.maskXOR_eq`)
it is the byte-wise XOR `Writer.xorKey`, which for a 4-byte key is `Spec.unmask`.  The `csimp`
equation lets compiled code (the driver) run the byte-wise form; it is a proved equality, so the
model's meaning is unchanged.
-/

namespace Writer

/-- byte-wise form of `Reader.unmask`: `p[i] ^ key[i mod 4]` for a 4-byte key (any other key
is read by `Reader.toKey` as four zero bytes) -/
def xorKey (key p : Bytes) : Bytes :=
  match key with
  | [a, b, c, d] => p.mapIdx fun i x => x ^^^ (match i % 4 with | 0 => a | 1 => b | 2 => c | _ => d)
  | _ => p

theorem ofBitVec_xor (x : UInt8) (y : BitVec 8) : UInt8.ofBitVec (x.toBitVec ^^^ y) = x ^^^ UInt8.ofBitVec y := by
  rfl

theorem unmask_eq_xorKey (key p : Bytes) : Reader.unmask key p = xorKey key p := by
  unfold Reader.unmask xorKey
  rw [Mask.maskXOR_eq]
  split
  · rename_i a b c d
    apply List.ext_getElem
    · simp
    · intro i h1 h2
      simp only [Reader.toKey, List.getElem_map, List.getElem_mapIdx]
      rw [ofBitVec_xor]
      congr 1
      unfold Mask.Key.get
      generalize i % 4 = j
      match j with
      | 0 => rfl
      | 1 => rfl
      | 2 => rfl
      | _ + 3 => rfl
  · rename_i hk
    have : Reader.toKey key = ⟨0, 0, 0, 0⟩ := by
      unfold Reader.toKey
      split
      · rename_i a b c d; exact absurd rfl (hk a b c d)
      · rfl
    rw [this]
    apply List.ext_getElem
    · simp
    · intro i h1 h2
      simp only [List.getElem_map, List.getElem_mapIdx]
      rw [ofBitVec_xor]
      have : (Mask.Key.get ⟨0, 0, 0, 0⟩ i) = 0 := by unfold Mask.Key.get; split <;> rfl
      rw [this]; simp

@[csimp] theorem unmask_eq_xorKey_fun : @Reader.unmask = @xorKey := by
  funext key p; exact unmask_eq_xorKey key p

theorem xorKey_eq_spec (key p : Bytes) (hk : key.length = 4) : xorKey key p = Spec.unmask key p := by
  match key, hk with
  | [a, b, c, d], _ =>
    refine List.mapIdx_eq_mapIdx_iff.mpr fun i _ => ?_
    congr 1
    have : i % 4 < 4 := Nat.mod_lt _ (by omega)
    generalize i % 4 = j at this
    match j, this with
    | 0, _ => rfl
    | 1, _ => rfl
    | 2, _ => rfl
    | 3, _ => rfl

theorem unmask_eq_spec (key p : Bytes) (hk : key.length = 4) : Reader.unmask key p = Spec.unmask key p := by
  rw [unmask_eq_xorKey, xorKey_eq_spec key p hk]

@[simp] theorem unmask_length (key p : Bytes) : (Reader.unmask key p).length = p.length := by
  unfold Reader.unmask; simp [Mask.maskXOR_length]

theorem unmask_involutive (key p : Bytes) : Reader.unmask key (Reader.unmask key p) = p := by
  simp [Reader.unmask, Function.comp_def, Mask.maskXOR_involutive]

theorem spec_unmask_masked (key p : Bytes) (hk : key.length = 4) : Spec.unmask key (Reader.unmask key p) = p := by
  rw [← unmask_eq_spec key _ hk, unmask_involutive]

end Writer
