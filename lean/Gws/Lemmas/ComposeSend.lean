import Gws.Model.Compose
import Gws.Lemmas.ComposeFrame
import Gws.Props.C17
import Gws.Props.C02  -- nothing here uses it: it stays among what the checks that build the C01 modules rebuild (tools/registry.py)
/-!
# One message, read by the peer (helpers for Props/C01)

Reader side: a message in one frame, compressed or not (`step_msg`), and the frames of a streamed message, any number of
fragments (`runs_fileFrames`).  Sender side: the single-frame calls as equations.
-/

namespace Compose

theorem isData_le {op : Nat} (h : isData op) : op ≤ 2 := by
  rcases h with rfl | rfl <;> simp [Facts.opText, Facts.opBinary]

theorem isData_ne {op : Nat} (h : isData op) : op ≠ Facts.opContinuation := by
  rcases h with rfl | rfl <;> simp [Facts.opText, Facts.opBinary, Facts.opContinuation]

theorem checkEncoding_of_textOk {check : Bool} {op : Nat} {data : Bytes} (hop : isData op)
    (h : textOk check op data) : Utf8.checkEncoding check op data = true := by
  unfold Utf8.checkEncoding
  cases check
  · simp
  · rcases hop with rfl | rfl
    · simpa [Facts.opText] using h rfl rfl
    · simp [Facts.opBinary]

theorem buffersCheck_of_textOk {check : Bool} {op : Nat} {p : List Bytes} (hop : isData op)
    (h : textOk check op p.flatten) :
    ¬ (op = Facts.opText ∧ Utf8.buffersCheck check op p = false) := by
  rintro ⟨rfl, hb⟩
  unfold Utf8.buffersCheck at hb
  cases check
  · simp at hb
  · have := h rfl rfl
    simp [Utf8.validJoined_eq, this] at hb

theorem winOk_write (w : Win) (p : Bytes) (hw : WinOk w) : WinOk (w.write p) := by
  intro he
  have hf := Win.write_frame w p
  rw [hf.1] at he
  exact Win.write_length_le w p he (hw he)

theorem winOk_init (bits : Nat) : WinOk (Win.init bits) := by intro _; simp [Win.init]
theorem winOk_disabled : WinOk Win.disabled := by intro h; simp [Win.disabled] at h

/-- `hd`, `out` as in `Reader.emitMessage_data` -/
theorem step_msg (r : Reader.Cfg) (codec : Codec) (st : Reader.State) (senderIsServer z : Bool)
    (op : Nat) (body out key rest : Bytes)
    (hrole : r.isServer = !senderIsServer) (hR : r.readMax < 2 ^ 63) (hz : z = true → r.pdEnabled = true)
    (hop : isData op) (hk : key.length = 4)
    (hfit : (body.length : Int) ≤ r.readMax)
    (hd : if z then codec.decompress r.readMax st.dps.dict body = .ok out else body = out)
    (htext : textOk r.checkUtf8 op out)
    (hidle : st.cont.initialized = false) :
    Reader.step r codec st (Writer.wireFrame senderIsServer true z op body key ++ rest) =
      .ok { st with dps := if z then st.dps.write out else st.dps } [.msg op out] rest := by
  obtain ⟨h, hfin, h1, hopc, hs⟩ := step_dataFrame r codec st senderIsServer true z op body key rest
    hrole (isData_le hop) hk hfit hR (fun h => ⟨hz h, hop⟩)
  have hzz : (r.pdEnabled && z) = z := by cases z <;> simp_all
  rw [hs]
  have := Reader.afterPayload_single r codec st h body rest hfin (by rw [hopc]; exact isData_ne hop) hidle _
    (some (.msg op out)) (by
      rw [h1, hopc, hzz]
      exact Reader.emitMessage_data r codec st op body out z hd (checkEncoding_of_textOk hop htext))
  simpa using this

theorem runs_contFrames (w : Writer.Cfg) (r : Reader.Cfg) (codec : Codec) (opcode : Nat) (keys : Nat → Bytes)
    (hrole : r.isServer = !w.isServer) (hR : r.readMax < 2 ^ 63) (hkeys : ∀ i, (keys i).length = 4) :
    ∀ (s : Writer.ReaderScript) (i : Nat) (st : Reader.State) (rest : Bytes), 1 ≤ i →
      (Writer.readChunks s).2 = true → st.cont.initialized = true →
      ((st.cont.buffer.length + (Writer.readChunks s).1.flatten.length : Nat) : Int) ≤ r.readMax →
      ∀ (st' : Reader.State) (ev : Option Reader.Ev),
        Reader.emitMessage r codec { st with cont := {} } st.cont.opcode
          (st.cont.buffer ++ (Writer.readChunks s).1.flatten) st.cont.compressed = .inl (st', ev) →
        Runs r codec st
          ((Writer.framesOf (fun i e p => Writer.fileWire w opcode i e p (keys i)) i s).flatten ++ rest)
          st' ev.toList rest := by
  intro s
  induction s with
  | nil => intro i st rest _ heof; simp [Writer.readChunks] at heof
  | cons hd tl ih =>
    intro i st rest hi heof hinit hfit st' ev he
    obtain ⟨p, eof⟩ := hd
    have hi0 : (i == 0) = false := by simp; omega
    have hipos : i > 0 := hi
    rw [Writer.readChunks_cons] at heof hfit he
    unfold Writer.framesOf
    simp only [List.flatten_cons, List.append_assoc]
    have hfw : Writer.fileWire w opcode i eof p (keys i) =
        Writer.wireFrame w.isServer eof false Facts.opContinuation p (keys i) := by
      simp only [Writer.fileWire, hi0, Bool.and_false, hipos, ↓reduceIte]
    rw [hfw]
    cases eof
    · simp only [Bool.false_eq_true, ↓reduceIte, List.flatten_cons, List.length_append] at heof hfit he ⊢
      obtain ⟨h, hfin, h1, hopc, hs⟩ := step_dataFrame r codec st w.isServer false false Facts.opContinuation p (keys i)
        ((Writer.framesOf (fun i e p => Writer.fileWire w opcode i e p (keys i)) (i + 1) tl).flatten ++ rest)
        hrole (by simp [Facts.opContinuation]) (hkeys i) (by omega) hR (by simp)
      rw [Reader.afterPayload_middle r codec st h p _ hfin hopc hinit (by omega)] at hs
      have hrun := ih (i + 1) { st with cont := { st.cont with buffer := st.cont.buffer ++ p } } rest (by omega) heof hinit
        (by simp only [List.length_append]; omega) st' ev (by simpa [List.append_assoc] using he)
      exact Runs.cons hs hrun
    · simp only [↓reduceIte, List.flatten_cons, List.flatten_nil, List.append_nil, List.nil_append] at hfit he ⊢
      obtain ⟨h, hfin, h1, hopc, hs⟩ := step_dataFrame r codec st w.isServer true false Facts.opContinuation p (keys i)
        rest hrole (by simp [Facts.opContinuation]) (hkeys i) (by omega) hR (by simp)
      rw [Reader.afterPayload_last r codec st h p rest hfin hopc hinit hfit st' ev he] at hs
      exact Runs.one hs

/-- the reader ends idle with some continuation record `c'`: its old one after a single frame, a fresh one after fragments -/
theorem runs_fileFrames (w : Writer.Cfg) (r : Reader.Cfg) (codec : Codec) (opcode : Nat) (keys : Nat → Bytes)
    (hrole : r.isServer = !w.isServer) (hext : r.pdEnabled = w.pdEnabled) (hR : r.readMax < 2 ^ 63)
    (hkeys : ∀ i, (keys i).length = 4) (hop : isData opcode)
    (s : Writer.ReaderScript) (st : Reader.State) (out : Bytes)
    (heof : (Writer.readChunks s).2 = true) (hidle : st.cont.initialized = false)
    (hfit : ((Writer.readChunks s).1.flatten.length : Int) ≤ r.readMax)
    (hd : if w.pdEnabled then codec.decompress r.readMax st.dps.dict (Writer.readChunks s).1.flatten = .ok out
          else (Writer.readChunks s).1.flatten = out)
    (hv : textOk r.checkUtf8 opcode out) :
    ∃ c' : Reader.Cont, c'.initialized = false ∧ ∀ rest : Bytes,
      Runs r codec st
        ((Writer.framesOf (fun i e p => Writer.fileWire w opcode i e p (keys i)) 0 s).flatten ++ rest)
        { cont := c', dps := if w.pdEnabled then st.dps.write out else st.dps } [.msg opcode out] rest := by
  match s, heof with
  | [], heof => simp [Writer.readChunks] at heof
  | (p, eof) :: tl, heof =>
    rw [Writer.readChunks_cons] at heof hfit hd
    unfold Writer.framesOf
    simp only [List.flatten_cons, List.append_assoc]
    have hfw : Writer.fileWire w opcode 0 eof p (keys 0) =
        Writer.wireFrame w.isServer eof w.pdEnabled opcode p (keys 0) := by
      have hz : ¬ (0 : Nat) > 0 := by omega
      simp only [Writer.fileWire, beq_self_eq_true, Bool.and_true, hz, ↓reduceIte]
    rw [hfw]
    cases eof
    · simp only [Bool.false_eq_true, ↓reduceIte, List.flatten_cons, List.length_append] at heof hfit hd ⊢
      refine ⟨{}, rfl, fun rest => ?_⟩
      obtain ⟨h, hfin, h1, hopc, hs⟩ := step_dataFrame r codec st w.isServer false w.pdEnabled opcode p (keys 0)
        ((Writer.framesOf (fun i e p => Writer.fileWire w opcode i e p (keys i)) (0 + 1) tl).flatten ++ rest)
        hrole (isData_le hop) (hkeys 0) (by omega) hR (fun h => ⟨by rw [hext, h], hop⟩)
      rw [Reader.afterPayload_first r codec st h p _ hfin (by rw [hopc]; exact isData_ne hop) hidle (by omega)] at hs
      have hrun := runs_contFrames w r codec opcode keys hrole hR hkeys tl (0 + 1)
        { st with cont := { initialized := true, compressed := r.pdEnabled && Frame.getRSV1 h.b0,
                            opcode := Frame.getOpcode h.b0, buffer := p } }
        rest (by omega) heof rfl (by simp only []; omega) _ (some (.msg opcode out))
        (by
          simp only [h1, hopc, hext, Bool.and_self]
          exact Reader.emitMessage_data r codec { st with cont := {} } opcode _ out _ hd (checkEncoding_of_textOk hop hv))
      exact Runs.cons hs hrun
    · simp only [↓reduceIte, List.flatten_cons, List.flatten_nil, List.append_nil, List.nil_append] at hfit hd ⊢
      exact ⟨st.cont, hidle, fun rest => Runs.one (step_msg r codec st w.isServer w.pdEnabled opcode p out (keys 0) rest
        hrole hR (fun h => by rw [hext, h]) hop (hkeys 0) hfit hd hv hidle)⟩

theorem writeMessage_eq (w : Writer.Cfg) (codec : Codec) (st : Writer.Conn) (op : Nat) (p : List Bytes)
    (keys : Nat → Bytes) (frame : Bytes) (hopen : st.closed = false)
    (hg : Writer.genFrame w codec st.cps op p (Writer.msgCfg w) (keys 0) = .ok frame) :
    Writer.writeMessage w codec st op p keys =
      { wire := frame, err := none,
        st := { st with cps := if Writer.willCompress w (Writer.msgCfg w) op p.flatten.length
                               then p.foldl Win.write st.cps else st.cps } } := by
  simp [Writer.writeMessage, Writer.doWrite, hopen, hg, Writer.emitError]

theorem broadcast_eq (w : Writer.Cfg) (codec : Codec) (st : Writer.Conn) (frame p closeKey : Bytes) (z : Bool)
    (hopen : st.closed = false) :
    Writer.broadcast w codec st (.ok (frame, z)) p closeKey =
      { wire := frame, err := none, st := { st with cps := if z then st.cps.write p else st.cps } } := by
  simp [Writer.broadcast, Writer.writeBroadcast, hopen, Writer.emitError]

end Compose
