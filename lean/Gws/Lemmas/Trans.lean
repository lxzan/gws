import Gws.Trans.Prelude
import Gws.Lemmas.WriterMask
/-!
# Lemmas about the Go prelude (`Gws/Trans/Prelude.lean`; `goCopy` and its general facts are in `Gws/Basic.lean`), shared by the proofs
that tie the translated source to the model
-/
namespace TransEquiv

theorem u8_forall (P : UInt8 → Prop) (h : ∀ n, n < 256 → P (UInt8.ofNat n)) (b : UInt8) : P b := by
  have := h b.toNat (by have := b.toNat_lt; omega)
  simpa using this

theorem u8_beq (x k : UInt8) : (x == k) = decide (x.toNat = k.toNat) :=
  decide_eq_decide.mpr UInt8.toNat_inj.symm

theorem u16_beq (x k : UInt16) : (x == k) = decide (x.toNat = k.toNat) :=
  decide_eq_decide.mpr UInt16.toNat_inj.symm

theorem u8_eq_1 (x : UInt8) : (x == (1 : UInt8)) = decide (x.toNat = 1) := u8_beq x 1
theorem u8_eq_2 (x : UInt8) : (x == (2 : UInt8)) = decide (x.toNat = 2) := u8_beq x 2

/-- `copy(d[o:], s)` (Go panics unless `o ≤ len(d)`) leaves the bytes in front of `o` -/
theorem goIdx_goCopy_lt (d s : Bytes) {o i : Nat} (h : i < o) (ho : o ≤ d.length) : goIdx (goCopy d o s) i = goIdx d i := by
  unfold goCopy goIdx
  rw [List.getD_eq_getElem?_getD, List.append_assoc, List.getElem?_append_left (by simp; omega), List.getElem?_take_of_lt h,
    ← List.getD_eq_getElem?_getD]

/-- `io.ReadFull` into a fresh buffer of `n` bytes (`goReadN` succeeded) leaves in it the bytes read -/
theorem goCopy_fresh (r : Bytes) {n : Nat} (h : ¬ r.length < n) : goCopy (List.replicate n 0) 0 (r.take n) = r.take n :=
  goCopy_full _ _ (by simp; omega)

/-- `internal.MaskXOR` of the prelude, which is the RFC's transform `Spec.unmask` word for word, is the model's `Reader.unmask` -/
theorem maskXOR_key (key p : Bytes) (hk : key.length = 4) : goMaskXOR p key = Reader.unmask key p :=
  (Writer.unmask_eq_spec key p hk).symm

end TransEquiv
