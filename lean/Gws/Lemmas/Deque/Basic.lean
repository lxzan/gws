import Gws.Model.Deque
/-!
# Deque: the heap and the linked segments in it

Reads after writes (`load_store`), what `get` answers, the two neighbour pointers of a segment (`firstOr`, `lastOr`:
the first slot of what follows, the last of what precedes, nil where there is none), doubly linked segments (`Chain`)
and how they split, join and survive writes to other slots or to the outward pointer of an end slot, and the invariant
`Inv` of the intermediate states, with the abstraction `abs` to a list of values.
-/

namespace Deque

@[simp] theorem load_mk (h t : Nat) (l : Int) (s : List Nat) (els : List Elem) (tm : Elem) (p : Nat) :
    load ⟨h, t, l, s, els, tm⟩ p = els[p]?.getD tm := rfl

@[simp] theorem store_head (d : Deque) (p : Nat) (e : Elem) : (d.store p e).head = d.head := rfl
@[simp] theorem store_tail (d : Deque) (p : Nat) (e : Elem) : (d.store p e).tail = d.tail := rfl
@[simp] theorem store_length (d : Deque) (p : Nat) (e : Elem) : (d.store p e).length = d.length := rfl
@[simp] theorem store_stack (d : Deque) (p : Nat) (e : Elem) : (d.store p e).stack = d.stack := rfl
@[simp] theorem store_template (d : Deque) (p : Nat) (e : Elem) : (d.store p e).template = d.template := rfl
@[simp] theorem store_elements (d : Deque) (p : Nat) (e : Elem) :
    (d.store p e).elements = d.elements.set p e := rfl

theorem getD_set {α : Type} (l : List α) (p q : Nat) (e tm : α) :
    (l.set p e)[q]?.getD tm = if q = p ∧ p < l.length then e else l[q]?.getD tm := by
  simp only [List.getElem?_set]
  by_cases h : p = q
  · subst h; by_cases h2 : p < l.length <;> simp [h2]
  · have : ¬ q = p := fun e => h e.symm
    simp [h, this]

theorem load_def (d : Deque) (p : Nat) : d.elements[p]?.getD d.template = d.load p := rfl

theorem load_store (d : Deque) (p q : Nat) (e : Elem) :
    (d.store p e).load q = if q = p ∧ p < d.elements.length then e else d.load q := by
  simp [load, store, getD_set]

theorem load_store_self {d : Deque} {p : Nat} {e : Elem} (h : p < d.elements.length) :
    (d.store p e).load p = e := by simp [load_store, h]

theorem load_store_ne {d : Deque} {p q : Nat} {e : Elem} (h : q ≠ p) :
    (d.store p e).load q = d.load q := by simp [load_store, h]

theorem load_of_ge {d : Deque} {p : Nat} (h : d.elements.length ≤ p) : d.load p = d.template := by
  simp [load, List.getElem?_eq_none h]

theorem get_eq_ite (d : Deque) (a : Nat) : d.get a = if a = 0 ∨ a < d.elements.length then some a else none := by
  unfold get
  by_cases h : a = 0
  · simp [h]
  · by_cases h2 : a < d.elements.length <;> simp [h, h2, Nat.pos_of_ne_zero h]

theorem get_of_zero_or_lt {d : Deque} {a : Nat} (h : a = 0 ∨ a < d.elements.length) : d.get a = some a := by
  rw [get_eq_ite, if_pos h]

theorem get_zero (d : Deque) : d.get 0 = some 0 := get_of_zero_or_lt (.inl rfl)

theorem get_of_lt {d : Deque} {a : Nat} (h : a < d.elements.length) : d.get a = some a := get_of_zero_or_lt (.inr h)

def firstOr : List Nat → Nat → Nat
  | [], n => n
  | a :: _, _ => a

def lastOr : List Nat → Nat → Nat
  | [], p => p
  | a :: r, _ => lastOr r a

@[simp] theorem firstOr_nil (n : Nat) : firstOr [] n = n := rfl
@[simp] theorem firstOr_cons (a : Nat) (l : List Nat) (n : Nat) : firstOr (a :: l) n = a := rfl
@[simp] theorem lastOr_nil (p : Nat) : lastOr [] p = p := rfl
@[simp] theorem lastOr_cons (a : Nat) (l : List Nat) (p : Nat) : lastOr (a :: l) p = lastOr l a := rfl

@[simp] theorem firstOr_append (l r : List Nat) (n : Nat) : firstOr (l ++ r) n = firstOr l (firstOr r n) := by
  cases l <;> simp

@[simp] theorem lastOr_append (l r : List Nat) (p : Nat) : lastOr (l ++ r) p = lastOr r (lastOr l p) := by
  induction l generalizing p with
  | nil => simp
  | cons a l ih => simp [ih]

theorem firstOr_eq_head? (l : List Nat) (n : Nat) : firstOr l n = l.head?.getD n := by
  cases l <;> simp

theorem lastOr_eq_getLast? (l : List Nat) (p : Nat) : lastOr l p = l.getLast?.getD p := by
  induction l generalizing p with
  | nil => simp
  | cons a l ih => simp [ih, List.getLast?_cons]

theorem firstOr_mem {l : List Nat} {n : Nat} (h : l ≠ []) : firstOr l n ∈ l := by
  cases l with
  | nil => exact absurd rfl h
  | cons a l => simp

theorem lastOr_mem_or (l : List Nat) (p : Nat) : lastOr l p = p ∧ l = [] ∨ lastOr l p ∈ l := by
  induction l generalizing p with
  | nil => simp
  | cons a l ih =>
    rcases ih a with ⟨h, _⟩ | h
    · simp [h]
    · simp [h]

theorem lastOr_mem {l : List Nat} {p : Nat} (h : l ≠ []) : lastOr l p ∈ l := by
  rcases lastOr_mem_or l p with ⟨_, h'⟩ | h'
  · exact absurd h' h
  · exact h'

theorem firstOr_mem_or (l : List Nat) (n : Nat) : firstOr l n = n ∧ l = [] ∨ firstOr l n ∈ l := by
  cases l <;> simp

theorem firstOr_ne {r : List Nat} {b n : Nat} (hb : b ∉ r) (hn : b ≠ n) : b ≠ firstOr r n := by
  rcases firstOr_mem_or r n with ⟨h, _⟩ | h
  · rw [h]; exact hn
  · exact fun e => hb (e ▸ h)

theorem lastOr_ne {l : List Nat} {b p : Nat} (hb : b ∉ l) (hp : b ≠ p) : b ≠ lastOr l p := by
  rcases lastOr_mem_or l p with ⟨h, _⟩ | h
  · rw [h]; exact hp
  · exact fun e => hb (e ▸ h)

/-- in a list of non-nil addresses the last one is nil exactly if the list is empty, so a test of that pointer
chooses between the empty list's default and the first element -/
theorem ite_lastOr_zero {l : List Nat} (hl : ∀ a ∈ l, a ≠ 0) (x y : Nat) :
    (if lastOr l 0 = 0 then x else firstOr l y) = firstOr l x := by
  cases l with
  | nil => simp
  | cons a l => rw [if_neg (hl _ (lastOr_mem (by simp)))]; rfl

theorem ite_firstOr_zero {r : List Nat} (hr : ∀ a ∈ r, a ≠ 0) (x y : Nat) :
    (if firstOr r 0 = 0 then x else lastOr r y) = lastOr r x := by
  cases r with
  | nil => simp
  | cons a r => simp [hr a]

/-- `Chain ld p as n`: read through `ld`, the slots `as` form a doubly linked segment in this order,
whose first element has predecessor `p` and whose last element has successor `n`; every element
carries its own address. -/
def Chain (ld : Nat → Elem) : Nat → List Nat → Nat → Prop
  | _, [], _ => True
  | p, a :: rest, n =>
    (ld a).addr = a ∧ (ld a).prev = p ∧ (ld a).next = firstOr rest n ∧ Chain ld a rest n

@[simp] theorem chain_nil (ld : Nat → Elem) (p n : Nat) : Chain ld p [] n := trivial

@[simp] theorem chain_cons (ld : Nat → Elem) (p a n : Nat) (rest : List Nat) :
    Chain ld p (a :: rest) n ↔
      (ld a).addr = a ∧ (ld a).prev = p ∧ (ld a).next = firstOr rest n ∧ Chain ld a rest n := Iff.rfl

theorem chain_append (ld : Nat → Elem) (p n : Nat) (l r : List Nat) :
    Chain ld p (l ++ r) n ↔ Chain ld p l (firstOr r n) ∧ Chain ld (lastOr l p) r n := by
  induction l generalizing p with
  | nil => simp
  | cons a l ih => simp [ih, and_assoc]

theorem chain_snoc (ld : Nat → Elem) (p n x : Nat) (l : List Nat) :
    Chain ld p (l ++ [x]) n ↔
      Chain ld p l x ∧ (ld x).addr = x ∧ (ld x).prev = lastOr l p ∧ (ld x).next = n := by
  simp [chain_append]

theorem chain_mid (ld : Nat → Elem) (p n a : Nat) (l r : List Nat) :
    Chain ld p (l ++ a :: r) n ↔
      Chain ld p l a ∧ (ld a).addr = a ∧ (ld a).prev = lastOr l p ∧ (ld a).next = firstOr r n ∧
        Chain ld a r n := by
  simp [chain_append]

theorem chain_congr {ld ld' : Nat → Elem} {p n : Nat} {as : List Nat}
    (h : ∀ b ∈ as, (ld' b).addr = (ld b).addr ∧ (ld' b).prev = (ld b).prev ∧ (ld' b).next = (ld b).next) :
    Chain ld' p as n ↔ Chain ld p as n := by
  induction as generalizing p with
  | nil => simp
  | cons a as ih =>
    have ha := h a (by simp)
    have := @ih a (fun b hb => h b (by simp [hb]))
    simp [ha.1, ha.2.1, ha.2.2, this]

theorem chain_congr_eq {ld ld' : Nat → Elem} {p n : Nat} {as : List Nat}
    (h : ∀ b ∈ as, ld' b = ld b) : Chain ld' p as n ↔ Chain ld p as n :=
  chain_congr (fun b hb => by simp [h b hb])

theorem chain_set_last {ld ld' : Nat → Elem} {p n n' : Nat} {l : List Nat} (hnd : l.Nodup)
    (hc : Chain ld p l n) (hsame : ∀ b ∈ l, b ≠ lastOr l p → ld' b = ld b)
    (hlast : l ≠ [] → ld' (lastOr l p) = { ld (lastOr l p) with next := n' }) :
    Chain ld' p l n' := by
  rcases List.eq_nil_or_concat l with rfl | ⟨l', x, rfl⟩
  · simp
  · simp only [List.concat_eq_append, lastOr_append, lastOr_cons, lastOr_nil] at hnd hc hsame hlast ⊢
    rw [chain_snoc] at hc ⊢
    rw [hlast (by simp)]
    refine ⟨(chain_congr_eq fun b hb => hsame b (by simp [hb]) ?_).mpr hc.1, hc.2.1, hc.2.2.1, rfl⟩
    rintro rfl
    exact (List.nodup_append.mp hnd).2.2 b hb b (by simp) rfl

theorem chain_set_first {ld ld' : Nat → Elem} {p p' n : Nat} {l : List Nat} (hnd : l.Nodup)
    (hc : Chain ld p l n) (hsame : ∀ b ∈ l, b ≠ firstOr l n → ld' b = ld b)
    (hfirst : l ≠ [] → ld' (firstOr l n) = { ld (firstOr l n) with prev := p' }) :
    Chain ld' p' l n := by
  cases l with
  | nil => simp
  | cons y r =>
    simp only [firstOr_cons] at hsame hfirst
    simp only [chain_cons] at hc ⊢
    rw [hfirst (by simp)]
    refine ⟨hc.1, rfl, hc.2.2.1, (chain_congr_eq fun b hb => hsame b (by simp [hb]) ?_).mpr hc.2.2.2⟩
    rintro rfl
    exact (List.nodup_cons.mp hnd).1 hb

theorem chain_addr {ld : Nat → Elem} {p n : Nat} {as : List Nat} (h : Chain ld p as n) :
    ∀ b ∈ as, (ld b).addr = b := by
  induction as generalizing p with
  | nil => simp
  | cons a as ih =>
    intro b hb
    simp only [chain_cons] at h
    rcases List.mem_cons.mp hb with rfl | hb
    · exact h.1
    · exact ih h.2.2.2 b hb

/-- Invariant of the intermediate states: `as` is the live sequence, `det` are slots that are
currently neither linked nor free (taken by `getElement` and not linked yet, or unlinked by `doRemove`
and not recycled or relinked yet).  `length` is left out: `InsertAfter`/`InsertBefore` bump it early.
`cover` (no slot besides the sentinel is unaccounted for) is what bounds the walk of `Range` by the number of slots
(`range_core`) and gives `WF.covers`. -/
structure Inv (d : Deque) (det as : List Nat) : Prop where
  tmpl : d.template = {}
  nodup : (det ++ as ++ d.stack).Nodup
  range : ∀ a ∈ det ++ as ++ d.stack, 0 < a ∧ a < d.elements.length
  cover : (det ++ as ++ d.stack).length = d.elements.length - 1
  head_eq : d.head = firstOr as 0
  tail_eq : d.tail = lastOr as 0
  links : Chain d.load 0 as 0
  free : ∀ a ∈ d.stack, d.load a = {}

def abs (d : Deque) (as : List Nat) : List Nat := as.map fun a => (d.load a).value

end Deque
