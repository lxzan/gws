import Gws.Lemmas.Deque.Basic
/-!
# Deque: symbolic execution of the internal steps

Each lemma runs one internal function of the model on a state about which only what the function reads is assumed
(addresses in range, the few distinctness facts it relies on) and describes the result through its scalar fields and
through `load`; the linking and unlinking steps all change the heap by a `relink` of two neighbours and at most one more
slot.  No invariant is involved here.
-/

namespace Deque

/-- what the linking and unlinking steps leave alone: all that `Inv.splice` is not told through head, tail and `load` -/
def SameShape (d d' : Deque) : Prop :=
  d'.stack = d.stack ∧ d'.template = d.template ∧ d'.elements.length = d.elements.length

/-- the heap after `P.next = x; N.prev = y`, each assignment skipped for a nil pointer: what every linking and
unlinking step of deque.go does to the neighbours `P`, `N` of the place it works at -/
def relink (ld : Nat → Elem) (P N x y : Nat) : Nat → Elem := fun b =>
  if b = N ∧ N ≠ 0 then { ld N with prev := y } else if b = P ∧ P ≠ 0 then { ld P with next := x } else ld b

theorem relink_left {ld : Nat → Elem} {P N x y : Nat} (h0 : P ≠ 0) (hPN : P ≠ N) :
    relink ld P N x y P = { ld P with next := x } := by
  simp [relink, h0, hPN]

theorem relink_right {ld : Nat → Elem} {P N x y : Nat} (h0 : N ≠ 0) :
    relink ld P N x y N = { ld N with prev := y } := by
  simp [relink, h0]

theorem relink_of_ne {ld : Nat → Elem} {P N x y b : Nat} (hP : b ≠ P) (hN : b ≠ N) : relink ld P N x y b = ld b := by
  simp [relink, hP, hN]

theorem relink_value (ld : Nat → Elem) (P N x y b : Nat) : (relink ld P N x y b).value = (ld b).value := by
  unfold relink
  split
  · rename_i h; rw [h.1]
  · split
    · rename_i h; rw [h.1]
    · rfl

theorem autoReset_spec (d : Deque) :
    d.autoReset.head = 0 ∧ d.autoReset.tail = 0 ∧ d.autoReset.length = 0 ∧
      d.autoReset.template = d.template ∧ d.autoReset.stack = [] ∧
      d.autoReset.elements.length = min 1 d.elements.length := by
  obtain ⟨h, t, l, s, els, tm⟩ := d
  cases els with
  | nil => simp [autoReset]
  | cons e els => simp [autoReset]

theorem getElem_eq_load {d : Deque} {a : Nat} (h : a < d.elements.length) : d.elements[a] = d.load a := by
  simp [load, h]

section
-- the normal form in which the two sides of the lemmas below meet: reads after the writes of a step resolved by
-- `load_store`, slots read through `load` of the initial state, `SameShape` and `relink` spelt out
attribute [local simp] load_store load_def getElem_eq_load getD_set SameShape relink

theorem getElement_pop {d : Deque} {x : Nat} {rest : List Nat} (hs : d.stack = x :: rest)
    (hx0 : 0 < x) (hx : x < d.elements.length) :
    ∃ d', d.getElement = some (d', x) ∧ d'.head = d.head ∧ d'.tail = d.tail ∧ d'.length = d.length ∧
      d'.template = d.template ∧ d'.stack = rest ∧ d'.elements.length = d.elements.length ∧
      ∀ b, d'.load b = if b = x then { d.load x with addr := x } else d.load b := by
  have hne : d.elements.length ≠ 0 := by omega
  simp [getElement, get, hs, hne, hx0, hx, Nat.ne_of_gt hx0]

/-- why `load` answers the template for an absent slot: growing the array by copies of the template changes no `load` -/
theorem getD_append_template (d : Deque) {pad : List Elem} (hp : ∀ e ∈ pad, e = d.template) (b : Nat) :
    (d.elements ++ pad)[b]?.getD d.template = d.load b := by
  by_cases hb : b < d.elements.length
  · simp [List.getElem?_append_left hb]
  · rw [List.getElem?_append_right (Nat.le_of_not_lt hb), load_of_ge (Nat.le_of_not_lt hb)]
    cases h : pad[b - d.elements.length]? with
    | none => rfl
    | some e => exact hp e (List.mem_of_getElem? h)

/-- no recycled slot: a copy of the template is appended (behind the sentinel slot, which a zero value gets first) -/
theorem getElement_fresh {d : Deque} (hs : d.stack = []) :
    ∃ d', d.getElement = some (d', max 1 d.elements.length) ∧ d'.head = d.head ∧ d'.tail = d.tail ∧
      d'.length = d.length ∧ d'.template = d.template ∧ d'.stack = [] ∧
      d'.elements.length = max 1 d.elements.length + 1 ∧
      ∀ b, d'.load b = if b = max 1 d.elements.length then { d.template with addr := b } else d.load b := by
  by_cases he : d.elements.length = 0
  · simp [getElement, get, hs, he]
    intro b
    split
    · simp [*]
    · exact getD_append_template d (by simp) b
  · have hm : max 1 d.elements.length = d.elements.length := by omega
    simp [getElement, get, hs, he, hm, Nat.pos_of_ne_zero he]
    intro b
    split
    · simp [*]
    · exact getD_append_template d (by simp) b

theorem putElement_spec {d : Deque} {a : Nat} (ha : a < d.elements.length) :
    (d.putElement a).head = d.head ∧ (d.putElement a).tail = d.tail ∧ (d.putElement a).length = d.length ∧
      (d.putElement a).template = d.template ∧ (d.putElement a).stack = (d.load a).addr :: d.stack ∧
      (d.putElement a).elements.length = d.elements.length ∧
      ∀ b, (d.putElement a).load b = if b = a then d.template else d.load b := by
  simp [putElement, ha]

/-- the old tail `P` is the only neighbour: of `relink d.load P 0 a a` only `P.next = a` is live, the last argument (the
new `prev` of a nil `N`) is a dummy; `doPushFront_spec` is the mirror image -/
theorem doPushBack_spec {d : Deque} {a P : Nat} (hP : d.tail = P) (hal : a < d.elements.length)
    (ha : (d.load a).addr = a) (hP' : P ≠ 0 → P < d.elements.length ∧ (d.load P).addr = P ∧ P ≠ a) :
    ∃ d', d.doPushBack a = some d' ∧ d'.length = d.length + 1 ∧ SameShape d d' ∧
      d'.head = (if P = 0 then a else d.head) ∧ d'.tail = a ∧
      ∀ b, d'.load b = if b = a ∧ P ≠ 0 then { d.load a with prev := P } else relink d.load P 0 a a b := by
  unfold doPushBack
  by_cases hP0 : P = 0
  · simp [hP, hP0, ha]
  · obtain ⟨hPl, hPa, hne⟩ := hP' hP0
    simp [hP, hP0, get, Nat.pos_of_ne_zero hP0, ha, hPa, hal, hPl, Ne.symm hne]

theorem doPushFront_spec {d : Deque} {a N : Nat} (hN : d.head = N) (hal : a < d.elements.length)
    (ha : (d.load a).addr = a) (hN' : N ≠ 0 → N < d.elements.length ∧ (d.load N).addr = N ∧ N ≠ a) :
    ∃ d', d.doPushFront a = some d' ∧ d'.length = d.length + 1 ∧ SameShape d d' ∧
      d'.head = a ∧ d'.tail = (if N = 0 then a else d.tail) ∧
      ∀ b, d'.load b = if b = a ∧ N ≠ 0 then { d.load a with next := N } else relink d.load 0 N a a b := by
  unfold doPushFront
  by_cases hN0 : N = 0
  · simp [hN, hN0, ha]
  · obtain ⟨hNl, hNa, hne⟩ := hN' hN0
    simp [hN, hN0, get, Nat.pos_of_ne_zero hN0, ha, hNa, hal, hNl, Ne.symm hne]

theorem doRemove_spec {d : Deque} {a P N : Nat} (hP : (d.load a).prev = P) (hN : (d.load a).next = N)
    (hP' : P ≠ 0 → P < d.elements.length ∧ (d.load P).addr = P ∧ P ≠ N)
    (hN' : N ≠ 0 → N < d.elements.length ∧ (d.load N).addr = N) :
    ∃ d', d.doRemove a = some d' ∧ d'.length = d.length - 1 ∧ SameShape d d' ∧
      d'.head = (if P = 0 then N else d.head) ∧ d'.tail = (if N = 0 then P else d.tail) ∧
      d'.load = relink d.load P N N P := by
  unfold doRemove
  simp only [hP, hN]
  by_cases hP0 : P = 0 <;> by_cases hN0 : N = 0
  · simp [hP0, hN0, funext_iff]
  · obtain ⟨hNl, hNa⟩ := hN' hN0
    simp [hP0, hN0, get_of_lt hNl, funext_iff, hNa, hNl]
  · obtain ⟨hPl, hPa, -⟩ := hP' hP0
    simp [hP0, hN0, get_of_lt hPl, funext_iff, hPa, hPl]
  · obtain ⟨hNl, hNa⟩ := hN' hN0
    obtain ⟨hPl, hPa, hPN⟩ := hP' hP0
    simp [hP0, hN0, get_of_lt hPl, get_of_lt hNl, funext_iff, hPa, hPl, hNa, hNl, Ne.symm hPN]

/-- `InsertAfter` from the statement after `getElement` on: `d1`, `e1` are what `getElement` returned -/
theorem insertAfter_link {d d1 : Deque} {e1 v m N : Nat} (hm0 : m ≠ 0)
    (hge : getElement { d with length := d.length + 1 } = some (d1, e1))
    (hm : m < d1.elements.length ∧ (d1.load m).addr = m ∧ m ≠ N) (hN : (d1.load m).next = N)
    (hNl : N ≠ 0 → N < d1.elements.length) (hel : e1 < d1.elements.length) (he : (d1.load e1).addr = e1)
    (hem : e1 ≠ m) (heN : e1 ≠ N) :
    ∃ d', d.insertAfter v m = some (d', e1) ∧ d'.length = d1.length ∧ SameShape d1 d' ∧
      d'.head = d1.head ∧ d'.tail = (if N = 0 then e1 else d1.tail) ∧
      ∀ b, d'.load b = if b = e1 then ⟨m, e1, N, v⟩ else relink d1.load m N e1 e1 b := by
  obtain ⟨hml, hma, hmN⟩ := hm
  unfold insertAfter
  simp only [hm0, if_false, hge, Option.bind_eq_bind, Option.bind_some, get_of_lt hml, hN, hma, he]
  by_cases hN0 : N = 0
  · simp [get_zero, hN0, hma, hml, hel, hem, Ne.symm hem, hm0]
    intro b
    by_cases h1 : b = e1
    · simp [h1, hem]
    · simp [h1]
  · have hNl := hNl hN0
    simp [get_of_lt hNl, hN0, hma, hml, hel, hNl, hem, Ne.symm hem, hm0, heN, Ne.symm heN, hmN]
    intro b
    by_cases h1 : b = e1
    · simp [h1, hem, heN]
    · by_cases h2 : b = m
      · simp [h2, hmN, Ne.symm hem]
      · simp [h1, h2]

/-- `InsertBefore` from the statement after `getElement` on -/
theorem insertBefore_link {d d1 : Deque} {e1 v m P : Nat} (hm0 : m ≠ 0)
    (hge : getElement { d with length := d.length + 1 } = some (d1, e1))
    (hm : m < d1.elements.length ∧ (d1.load m).addr = m) (hP : (d1.load m).prev = P)
    (hPl : P ≠ 0 → P < d1.elements.length ∧ P ≠ m) (hel : e1 < d1.elements.length) (he : (d1.load e1).addr = e1)
    (heP : e1 ≠ P) (hem : e1 ≠ m) :
    ∃ d', d.insertBefore v m = some (d', e1) ∧ d'.length = d1.length ∧ SameShape d1 d' ∧
      d'.head = (if P = 0 then e1 else d1.head) ∧ d'.tail = d1.tail ∧
      ∀ b, d'.load b = if b = e1 then ⟨P, e1, m, v⟩ else relink d1.load P m e1 e1 b := by
  obtain ⟨hml, hma⟩ := hm
  unfold insertBefore
  simp only [hm0, if_false, hge, Option.bind_eq_bind, Option.bind_some, get_of_lt hml, hP, hma, he]
  by_cases hP0 : P = 0
  · simp [get_zero, hP0, hma, hml, hel, hem, Ne.symm hem, hm0]
    intro b
    by_cases h1 : b = e1
    · simp [h1, hem]
    · simp [h1]
  · obtain ⟨hPl, hPm⟩ := hPl hP0
    simp [get_of_lt hPl, hP0, hma, hml, hel, hPl, hem, Ne.symm hem, hm0, heP, Ne.symm heP, Ne.symm hPm]
    intro b
    by_cases h1 : b = e1
    · simp [h1, hem, heP]
    · simp [h1]

end

end Deque
