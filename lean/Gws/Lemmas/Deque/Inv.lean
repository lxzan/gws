import Gws.Lemmas.Deque.Exec
/-!
# Deque: the internal steps preserve the invariant `Inv`

The linking and unlinking steps all replace a segment `mid` of the live sequence `l ++ mid ++ r` by
another one: `Inv.ends` collects what the invariant says about the two neighbours of the segment (what
the code reads), `Inv.splice` re-establishes the invariant from the heap effect (what the code writes).
-/

namespace Deque

theorem nodup_parts {X l m r s : List Nat} (h : (X ++ (l ++ m ++ r) ++ s).Nodup) :
    l.Nodup ∧ r.Nodup ∧ (∀ b ∈ l, b ∉ r) ∧ (∀ b ∈ X ++ m ++ s, b ∉ l ∧ b ∉ r) ∧ ∀ b ∈ l ++ r ++ s, b ∉ m := by
  simp only [List.nodup_append, List.mem_append] at h ⊢
  grind

namespace Inv

variable {d : Deque} {det as : List Nat}

theorem addr_eq (h : Inv d det as) {a : Nat} (ha : a ∈ as) : (d.load a).addr = a :=
  chain_addr h.links a ha

theorem elements_ne_nil (h : Inv d det as) {a : Nat} (ha : a ∈ det ++ as ++ d.stack) : d.elements ≠ [] := by
  have := (h.range a ha).2
  intro he; simp [he] at this

theorem det_disjoint (h : Inv d det as) {a : Nat} (ha : a ∈ det) : a ∉ as ∧ a ∉ d.stack := by
  have := h.nodup
  simp only [List.nodup_append, List.mem_append] at this
  exact ⟨fun h1 => this.1.2.2 a ha a h1 rfl, fun h2 => this.2.2 a (.inl ha) a h2 rfl⟩

theorem with_length (h : Inv d det as) (k : Int) : Inv { d with length := k } det as :=
  ⟨h.tmpl, h.nodup, h.range, h.cover, h.head_eq, h.tail_eq, h.links, h.free⟩

/-- **The neighbours of a segment.**  `P` is the last slot before a segment `mid` of the live sequence, `N` the first
after it (0 where there is none); about them, all that the code relies on when it follows the two pointers. -/
theorem ends {l mid r : List Nat} (h : Inv d det (l ++ mid ++ r)) :
    (lastOr l 0 ≠ 0 → lastOr l 0 < d.elements.length ∧ (d.load (lastOr l 0)).addr = lastOr l 0 ∧
      lastOr l 0 ≠ firstOr r 0) ∧
    (firstOr r 0 ≠ 0 → firstOr r 0 < d.elements.length ∧ (d.load (firstOr r 0)).addr = firstOr r 0) ∧
    ∀ e ∈ det ++ mid, e ≠ lastOr l 0 ∧ e ≠ firstOr r 0 := by
  obtain ⟨-, -, hlr, hout, -⟩ := nodup_parts h.nodup
  have hP : lastOr l 0 ≠ 0 → lastOr l 0 ∈ l := fun h0 => (lastOr_mem_or l 0).resolve_left fun hh => h0 hh.1
  have hN : firstOr r 0 ≠ 0 → firstOr r 0 ∈ r := fun h0 => (firstOr_mem_or r 0).resolve_left fun hh => h0 hh.1
  refine ⟨fun h0 => ⟨(h.range _ (by simp [hP h0])).2, h.addr_eq (by simp [hP h0]), firstOr_ne (hlr _ (hP h0)) h0⟩,
    fun h0 => ⟨(h.range _ (by simp [hN h0])).2, h.addr_eq (by simp [hN h0])⟩, fun e he => ?_⟩
  have h0 : e ≠ 0 := Nat.ne_of_gt (h.range e (by rcases List.mem_append.mp he with h' | h' <;> simp [h'])).1
  have := hout e (List.mem_append_left _ he)
  exact ⟨lastOr_ne this.1 h0, firstOr_ne this.2 h0⟩

theorem perm_parts {det' mid' l mid r : List Nat} (hperm : (det' ++ mid').Perm (det ++ mid)) (st : List Nat) :
    (det' ++ (l ++ mid' ++ r) ++ st).Perm (det ++ (l ++ mid ++ r) ++ st) := by
  rw [List.perm_iff_count] at hperm ⊢
  intro a; have := hperm a
  simp only [List.count_append] at this ⊢; omega

/-- **Splice.**  The segment `mid` between the neighbours `P` and `N` is replaced by `mid'` (slots come from and
go to the detached ones): the new heap links `P → mid' → N` and is outside `mid'` the old one with `P.next` and `N.prev`
redirected.  Head and tail are given by a test of the two pointers for nil, as in the code. -/
theorem splice {d' : Deque} {det' l mid mid' r : List Nat} (h : Inv d det (l ++ mid ++ r)) (hs : SameShape d d')
    (hperm : (det' ++ mid').Perm (det ++ mid))
    (hhead : d'.head = if lastOr l 0 = 0 then firstOr mid' (firstOr r 0) else d.head)
    (htail : d'.tail = if firstOr r 0 = 0 then lastOr mid' (lastOr l 0) else d.tail)
    (hmid : Chain d'.load (lastOr l 0) mid' (firstOr r 0))
    (hld : ∀ b, b ∉ mid' → d'.load b =
      relink d.load (lastOr l 0) (firstOr r 0) (firstOr mid' (firstOr r 0)) (lastOr mid' (lastOr l 0)) b) :
    Inv d' det' (l ++ mid' ++ r) := by
  obtain ⟨hst, htm, hsz⟩ := hs
  have hp := perm_parts (l := l) (r := r) hperm d.stack
  have s1 := hp.nodup_iff.mpr h.nodup
  have s2 : ∀ a ∈ det' ++ (l ++ mid' ++ r) ++ d.stack, 0 < a ∧ a < d.elements.length := fun a ha =>
    h.range a (hp.mem_iff.mp ha)
  obtain ⟨hnl, hnr, hlr, hout, hm'⟩ := nodup_parts s1
  have h0 : ∀ b ∈ l ++ r ++ d.stack, b ≠ 0 := fun b hb =>
    Nat.ne_of_gt (s2 b (by simp only [List.mem_append] at hb ⊢; grind)).1
  have hPN := h.ends.1
  have hsl : ∀ b ∈ l, b ≠ lastOr l 0 → d'.load b = d.load b := fun b hb hbP => by
    rw [hld b (hm' b (by simp [hb])), relink_of_ne hbP (firstOr_ne (hlr b hb) (h0 b (by simp [hb])))]
  have hsr : ∀ b ∈ r, b ≠ firstOr r 0 → d'.load b = d.load b := fun b hb hbN => by
    rw [hld b (hm' b (by simp [hb])), relink_of_ne (lastOr_ne (fun hbl => hlr b hbl hb) (h0 b (by simp [hb]))) hbN]
  obtain ⟨hcl, hcr⟩ := (chain_append _ _ _ _ _).mp h.links
  obtain ⟨hcl, -⟩ := (chain_append _ _ _ _ _).mp hcl
  refine ⟨htm ▸ h.tmpl, hst ▸ s1, by rw [hst, hsz]; exact s2, by rw [hst, hsz, hp.length_eq]; exact h.cover,
    ?_, ?_, ?_, ?_⟩
  · rw [hhead, h.head_eq]; simp only [firstOr_append]
    exact ite_lastOr_zero (fun b hb => h0 b (by simp [hb])) _ _
  · rw [htail, h.tail_eq]; simp only [lastOr_append]
    exact ite_firstOr_zero (fun b hb => h0 b (by simp [hb])) _ _
  · rw [chain_append, chain_append, lastOr_append]
    refine ⟨⟨chain_set_last hnl hcl hsl fun hl => ?_, hmid⟩, chain_set_first hnr hcr hsr fun hr => ?_⟩
    · have hP := lastOr_mem (p := 0) hl
      have hP0 := h0 (lastOr l 0) (by simp [hP])
      rw [hld _ (hm' (lastOr l 0) (by simp [hP])), relink_left hP0 (hPN hP0).2.2]
    · have hN := firstOr_mem (n := 0) hr
      rw [hld _ (hm' (firstOr r 0) (by simp [hN])), relink_right (h0 (firstOr r 0) (by simp [hN]))]
  · rw [hst]; intro b hb
    have hb' := hout b (by simp [hb])
    have hb0 := h0 b (by simp [hb])
    rw [hld b (hm' b (by simp [hb])), relink_of_ne (lastOr_ne hb'.1 hb0) (firstOr_ne hb'.2 hb0)]
    exact h.free b hb

end Inv

/-- **Frame.**  A step that writes only a slot `a` that is not live preserves the invariant for the same live sequence,
whatever it does to the partition of the other slots into detached and free ones: the three clauses about that are
asked for as they stand. -/
theorem Inv.frame {d d' : Deque} {det det' as : List Nat} {a : Nat} (h : Inv d det as) (ha : a ∉ as)
    (hh : d'.head = d.head) (ht : d'.tail = d.tail) (htm : d'.template = d.template)
    (hld : ∀ b, b ≠ a → d'.load b = d.load b)
    (hst : ∀ b ∈ d'.stack, b ≠ a → b ∈ d.stack) (hfa : a ∈ d'.stack → d'.load a = {})
    (hn : (det' ++ as ++ d'.stack).Nodup) (hr : ∀ b ∈ det' ++ as ++ d'.stack, 0 < b ∧ b < d'.elements.length)
    (hc : (det' ++ as ++ d'.stack).length = d'.elements.length - 1) : Inv d' det' as :=
  ⟨htm ▸ h.tmpl, hn, hr, hc, hh ▸ h.head_eq, ht ▸ h.tail_eq,
    (chain_congr_eq fun b hb => hld b fun e => ha (e ▸ hb)).mpr h.links, fun b hb => by
      by_cases hb' : b = a
      · rw [hb']; exact hfa (hb' ▸ hb)
      · rw [hld b hb']; exact h.free b (hst b hb hb')⟩

theorem getElement_inv {d : Deque} {det as : List Nat} (h : Inv d det as) :
    ∃ d' a, d.getElement = some (d', a) ∧ Inv d' (a :: det) as ∧ d'.length = d.length ∧
      d'.load a = { addr := a } ∧ (∀ b, b ≠ a → d'.load b = d.load b) := by
  have hn := h.nodup; have hr := h.range; have hc := h.cover
  cases hs : d.stack with
  | nil =>
    simp only [hs, List.append_nil] at hn hr hc
    obtain ⟨d', hg, hh, ht, hl, htm, hst, hsz, hld⟩ := getElement_fresh hs
    have hf : max 1 d.elements.length ∉ det ++ as := fun hm => by have := (hr _ hm).2; omega
    refine ⟨d', _, hg, ?_, hl, by simp [hld, h.tmpl], fun b hb => by simp [hld, hb]⟩
    refine h.frame (a := max 1 d.elements.length) (fun hm => hf (by simp [hm])) hh ht htm
      (fun b hb => by simp [hld, hb]) (by simp [hst]) (by simp [hst]) ?_ ?_ ?_
    · simpa [hst] using List.nodup_cons.mpr ⟨hf, hn⟩
    · simp only [hst, List.append_nil, List.cons_append, hsz, List.mem_cons]
      rintro a (rfl | ha)
      · omega
      · have := hr a ha; omega
    · simp only [hst, List.append_nil, List.cons_append, hsz, List.length_cons]; omega
  | cons x rest =>
    rw [hs] at hn hr hc
    have hx := hr x (by simp)
    obtain ⟨d', hg, hh, ht, hl, htm, hst, hsz, hld⟩ := getElement_pop hs hx.1 hx.2
    have hperm : ((x :: det) ++ as ++ rest).Perm (det ++ as ++ x :: rest) := by
      simpa using (List.perm_middle (l₁ := det ++ as) (l₂ := rest) (a := x)).symm
    have hn' := hperm.nodup_iff.mpr hn
    have hx' : x ∉ det ++ as ++ rest := (List.nodup_cons.mp hn').1
    have hxas : x ∉ as ∧ x ∉ rest := ⟨fun hm => hx' (by simp [hm]), fun hm => hx' (by simp [hm])⟩
    refine ⟨d', _, hg, ?_, hl, by simp [hld, h.free x (by simp [hs])], fun b hb => by simp [hld, hb]⟩
    exact h.frame hxas.1 hh ht htm (fun b hb => by simp [hld, hb]) (fun b hb _ => by simp [hs, hst ▸ hb])
      (fun hm => absurd (hst ▸ hm) hxas.2) (hst ▸ hn')
      (by rw [hst, hsz]; exact fun a ha => hr a (hperm.mem_iff.mp ha)) (by rw [hst, hsz, hperm.length_eq]; exact hc)

theorem store_det_inv {d : Deque} {det as : List Nat} {a : Nat} (h : Inv d det as) (ha : a ∈ det) (e : Elem) :
    Inv (d.store a e) det as := by
  obtain ⟨h1, h2⟩ := h.det_disjoint ha
  exact h.frame h1 rfl rfl rfl (fun b hb => load_store_ne hb) (fun b hb _ => hb) (fun hm => absurd hm h2)
    (by simpa using h.nodup) (by simpa using h.range) (by simpa using h.cover)

theorem putElement_inv {d : Deque} {det as : List Nat} {a : Nat} (h : Inv d (a :: det) as)
    (haddr : (d.load a).addr = a) :
    Inv (d.putElement a) det as ∧ (d.putElement a).length = d.length ∧
      ∀ b, b ≠ a → (d.putElement a).load b = d.load b := by
  obtain ⟨hh, ht, hl, htm, hst, hsz, hld⟩ := putElement_spec (h.range a (by simp)).2
  rw [haddr] at hst
  have hperm : (det ++ as ++ a :: d.stack).Perm ((a :: det) ++ as ++ d.stack) := by
    simpa [List.append_assoc] using (List.perm_middle (l₁ := det ++ as) (l₂ := d.stack) (a := a))
  have ha := (h.det_disjoint (a := a) (by simp)).1
  refine ⟨h.frame ha hh ht htm (fun b hb => by simp [hld, hb]) (fun b hb hba => ?_) (fun _ => by simp [hld, h.tmpl])
    (hst ▸ hperm.nodup_iff.mpr h.nodup) (by rw [hst, hsz]; exact fun b hb => h.range b (hperm.mem_iff.mp hb))
    (by rw [hst, hsz, hperm.length_eq]; exact h.cover), hl, fun b hb => by simp [hld, hb]⟩
  rw [hst] at hb
  exact (List.mem_cons.mp hb).resolve_left hba

theorem doPushBack_inv {d : Deque} {det as : List Nat} {a v : Nat} (h : Inv d (a :: det) as)
    (ha : d.load a = ⟨0, a, 0, v⟩) :
    ∃ d', d.doPushBack a = some d' ∧ Inv d' det (as ++ [a]) ∧ d'.length = d.length + 1 ∧
      ∀ b, (d'.load b).value = (d.load b).value := by
  have h' : Inv d (a :: det) (as ++ [] ++ []) := by simpa using h
  obtain ⟨hP, -, hout⟩ := h'.ends
  obtain ⟨d', hpb, hlen, hs, hhead, htail, hld⟩ := doPushBack_spec h.tail_eq (h.range a (by simp)).2 (by rw [ha])
    fun h0 => ⟨(hP h0).1, (hP h0).2.1, (hout a (by simp)).1.symm⟩
  have := h'.splice (mid' := [a]) (det' := det) hs (by simp) (by simpa using hhead) (by simpa using htail)
    (by by_cases h0 : lastOr as 0 = 0 <;> simp [hld, h0, ha, relink])
    fun b hb => by simpa [mt List.mem_singleton.mpr hb] using hld b
  refine ⟨d', hpb, by simpa using this, hlen, fun b => ?_⟩
  rw [hld]; split
  · rename_i hb; rw [hb.1]
  · exact relink_value ..

theorem doPushFront_inv {d : Deque} {det as : List Nat} {a v : Nat} (h : Inv d (a :: det) as)
    (ha : d.load a = ⟨0, a, 0, v⟩) :
    ∃ d', d.doPushFront a = some d' ∧ Inv d' det (a :: as) ∧ d'.length = d.length + 1 ∧
      ∀ b, (d'.load b).value = (d.load b).value := by
  have h' : Inv d (a :: det) ([] ++ [] ++ as) := by simpa using h
  obtain ⟨-, hN, hout⟩ := h'.ends
  obtain ⟨d', hpb, hlen, hs, hhead, htail, hld⟩ := doPushFront_spec h.head_eq (h.range a (by simp)).2 (by rw [ha])
    fun h0 => ⟨(hN h0).1, (hN h0).2, (hout a (by simp)).2.symm⟩
  have := h'.splice (mid' := [a]) (det' := det) hs (by simp) (by simpa using hhead) (by simpa using htail)
    (by by_cases h0 : firstOr as 0 = 0 <;> simp [hld, h0, ha, relink])
    fun b hb => by simpa [mt List.mem_singleton.mpr hb] using hld b
  refine ⟨d', hpb, by simpa using this, hlen, fun b => ?_⟩
  rw [hld]; split
  · rename_i hb; rw [hb.1]
  · exact relink_value ..

theorem doRemove_inv {d : Deque} {det l r : List Nat} {a : Nat} (h : Inv d det (l ++ a :: r)) :
    ∃ d', d.doRemove a = some d' ∧ Inv d' (a :: det) (l ++ r) ∧ d'.length = d.length - 1 ∧
      d'.load a = d.load a ∧ ∀ b, (d'.load b).value = (d.load b).value := by
  obtain ⟨-, -, hprev, hnext, -⟩ := (chain_mid _ _ _ _ _ _).mp h.links
  rw [List.append_cons] at h
  obtain ⟨hP, hN, hout⟩ := h.ends
  obtain ⟨d', hrm, hlen, hs, hhead, htail, hld⟩ := doRemove_spec hprev hnext hP hN
  have := h.splice (mid' := []) (det' := a :: det) hs (by simpa using (List.perm_append_singleton a det).symm)
    hhead htail trivial fun b _ => congrFun hld b
  obtain ⟨haP, haN⟩ := hout a (by simp)
  exact ⟨d', hrm, by simpa using this, hlen, by rw [hld, relink_of_ne haP haN], fun b => by rw [hld, relink_value]⟩

theorem insertAfter_inv {d : Deque} {det l r : List Nat} {m : Nat} (h : Inv d det (l ++ m :: r)) (v : Nat) :
    ∃ d' a, d.insertAfter v m = some (d', a) ∧ Inv d' det (l ++ m :: a :: r) ∧ d'.length = d.length + 1 ∧
      (d'.load a).value = v ∧ ∀ b, b ≠ a → (d'.load b).value = (d.load b).value := by
  obtain ⟨d1, e1, hge, h1, hl1, he, hlo⟩ := getElement_inv (h.with_length (d.length + 1))
  obtain ⟨-, -, -, hnext, -⟩ := (chain_mid _ _ _ _ _ _).mp h1.links
  have hm0 : m ≠ 0 := Nat.ne_of_gt (h1.range m (by simp)).1
  have h' : Inv d1 (e1 :: det) ((l ++ [m]) ++ [] ++ r) := by simpa using h1
  obtain ⟨hP, hN, hout⟩ := h'.ends
  simp only [lastOr_append, lastOr_cons, lastOr_nil] at hP hout
  obtain ⟨hem, heN⟩ := hout e1 (by simp)
  obtain ⟨d', hins, hlen, hs, hhead, htail, hld⟩ := insertAfter_link (v := v) hm0 hge (hP hm0) hnext
    (fun h0 => (hN h0).1) (h1.range e1 (by simp)).2 (by rw [he]) hem heN
  have := h'.splice (mid' := [e1]) (det' := det) hs (by simp) (by simpa [hm0] using hhead) (by simpa using htail)
    (by simp [hld]) fun b hb => by simpa [mt List.mem_singleton.mpr hb] using hld b
  exact ⟨d', e1, hins, by simpa using this, by rw [hlen, hl1], by simp [hld],
    fun b hb => by rw [hld, if_neg hb, relink_value, hlo b hb]; rfl⟩

theorem insertBefore_inv {d : Deque} {det l r : List Nat} {m : Nat} (h : Inv d det (l ++ m :: r)) (v : Nat) :
    ∃ d' a, d.insertBefore v m = some (d', a) ∧ Inv d' det (l ++ a :: m :: r) ∧ d'.length = d.length + 1 ∧
      (d'.load a).value = v ∧ ∀ b, b ≠ a → (d'.load b).value = (d.load b).value := by
  obtain ⟨d1, e1, hge, h1, hl1, he, hlo⟩ := getElement_inv (h.with_length (d.length + 1))
  obtain ⟨-, -, hprev, -, -⟩ := (chain_mid _ _ _ _ _ _).mp h1.links
  have hm0 : m ≠ 0 := Nat.ne_of_gt (h1.range m (by simp)).1
  have h' : Inv d1 (e1 :: det) (l ++ [] ++ m :: r) := by simpa using h1
  obtain ⟨hP, hN, hout⟩ := h'.ends
  simp only [firstOr_cons] at hP hN hout
  obtain ⟨heP, hem⟩ := hout e1 (by simp)
  obtain ⟨d', hins, hlen, hs, hhead, htail, hld⟩ := insertBefore_link (v := v) hm0 hge (hN hm0) hprev
    (fun h0 => ⟨(hP h0).1, (hP h0).2.2⟩) (h1.range e1 (by simp)).2 (by rw [he]) heP hem
  have := h'.splice (mid' := [e1]) (det' := det) hs (by simp) (by simpa using hhead) (by simpa [hm0] using htail)
    (by simp [hld]) fun b hb => by simpa [mt List.mem_singleton.mpr hb] using hld b
  exact ⟨d', e1, hins, by simpa using this, by rw [hlen, hl1], by simp [hld],
    fun b hb => by rw [hld, if_neg hb, relink_value, hlo b hb]; rfl⟩

end Deque
