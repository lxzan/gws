import Gws.Lemmas.Deque.Inv
/-!
# Deque: the invariant `WF` of C20 and the public operations on well-formed states

`WF d as` is the invariant in the form stated by the property (ghost list `as` of live addresses in sequence order);
`WF.inv` and `wf_of_inv` pass between it and the working form `Inv d [] as` plus the length equation.  One lemma per
public operation runs it (`*_core`; on a `WF` state, the reading ones on any `Inv` state): the four creating operations and `Update` deliver a `Written`;
`PopFront`/`PopBack` are `Remove` of the first/last handle, returning its value.
-/

namespace Deque

/-- **The C20 invariant.** `as` lists the addresses of the live elements in sequence order. -/
structure WF (d : Deque) (as : List Nat) : Prop where
  /-- the template is the zero element (it is never assigned) -/
  tmpl : d.template = {}
  /-- live addresses and free stack are distinct and disjoint -/
  nodup : (as ++ d.stack).Nodup
  /-- all of them are non-nil and inside the slot array -/
  range : ∀ a ∈ as ++ d.stack, 0 < a ∧ a < d.elements.length
  /-- together they are as many as there are slots besides the sentinel, i.e. they cover exactly the
  slots `1 .. len(elements)-1` (both are empty for the zero value, whose slot array is empty) -/
  cover : as.length + d.stack.length = d.elements.length - 1
  head_eq : d.head = as.head?.getD 0
  tail_eq : d.tail = as.getLast?.getD 0
  len_eq : d.length = as.length
  /-- the element at `as[i]` carries its own address and points to its neighbours (or nil) -/
  links : ∀ i (hi : i < as.length),
    (d.load as[i]).addr = as[i] ∧
    (d.load as[i]).prev = (if i = 0 then 0 else as[i - 1]?.getD 0) ∧
    (d.load as[i]).next = as[i + 1]?.getD 0
  /-- free slots are zeroed (equal to the template) -/
  free : ∀ a ∈ d.stack, d.load a = d.template

variable {d d' : Deque} {det as l r p q : List Nat} {a m v : Nat}

theorem chain_iff_index (ld : Nat → Elem) (p n : Nat) (as : List Nat) :
    Chain ld p as n ↔ ∀ i (hi : i < as.length),
      (ld as[i]).addr = as[i] ∧ (ld as[i]).prev = (if i = 0 then p else as[i - 1]?.getD 0) ∧
      (ld as[i]).next = as[i + 1]?.getD n := by
  induction as generalizing p with
  | nil => simp
  | cons a as ih =>
    have hprev : ∀ i, (if i = 0 then a else as[i - 1]?.getD 0) = (a :: as)[i]?.getD 0 := fun i => by
      cases i <;> simp
    simp [ih, Nat.forall_lt_succ_left', firstOr_eq_head?, List.head?_eq_getElem?, hprev, and_assoc]

theorem WF.inv (h : WF d as) : Inv d [] as :=
  ⟨h.tmpl, h.nodup, h.range, by simpa using h.cover, by rw [h.head_eq, firstOr_eq_head?],
    by rw [h.tail_eq, lastOr_eq_getLast?], (chain_iff_index _ _ _ _).mpr h.links, fun a ha => by rw [h.free a ha, h.tmpl]⟩

theorem wf_of_inv (h : Inv d [] as) (hl : d.length = as.length) : WF d as :=
  ⟨h.tmpl, h.nodup, h.range, by simpa using h.cover, by rw [h.head_eq, firstOr_eq_head?],
    by rw [h.tail_eq, lastOr_eq_getLast?], hl, (chain_iff_index _ _ _ _).mp h.links, fun a ha => by rw [h.free a ha, h.tmpl]⟩

theorem abs_congr (h : ∀ b ∈ as, (d'.load b).value = (d.load b).value) : abs d' as = abs d as := by
  unfold abs
  exact List.map_congr_left h

@[simp] theorem abs_nil (d : Deque) : abs d [] = [] := rfl
@[simp] theorem abs_cons (d : Deque) (a : Nat) (as : List Nat) :
    abs d (a :: as) = (d.load a).value :: abs d as := rfl
@[simp] theorem abs_append (d : Deque) (l r : List Nat) : abs d (l ++ r) = abs d l ++ abs d r := by
  simp [abs]
@[simp] theorem abs_length (d : Deque) (as : List Nat) : (abs d as).length = as.length := by
  simp [abs]

theorem WF.not_mem (h : WF d (p ++ a :: q)) : a ∉ p ++ q :=
  (List.nodup_cons.mp (List.perm_middle.nodup_iff.mp (List.nodup_append.mp h.nodup).1)).1

/-- What the operations that write one value deliver: the four creating ones, where the slot `a` is new, and `Update`. -/
structure Written (d d' : Deque) (p : List Nat) (a : Nat) (q : List Nat) (v : Nat) : Prop where
  wf : WF d' (p ++ a :: q)
  value : (d'.load a).value = v
  others : ∀ b, b ≠ a → (d'.load b).value = (d.load b).value

theorem Written.rest (h : Written d d' p a q v) : ∀ b ∈ p ++ q, (d'.load b).value = (d.load b).value :=
  fun b hb => h.others b fun e => h.wf.not_mem (e ▸ hb)

theorem Written.spec (h : Written d d' p a q v) :
    a ∉ p ++ q ∧ WF d' (p ++ a :: q) ∧ abs d' (p ++ a :: q) = abs d p ++ v :: abs d q ∧
      ∀ b ∈ p ++ q, (d'.load b).value = (d.load b).value := by
  refine ⟨h.wf.not_mem, h.wf, ?_, h.rest⟩
  rw [abs_append, abs_cons, h.value, abs_congr fun b hb => h.rest b (List.mem_append_left _ hb),
    abs_congr fun b hb => h.rest b (List.mem_append_right _ hb)]

theorem newSlot_inv (h : Inv d [] as) (v : Nat) :
    ∃ d1 a, d.getElement = some (d1, a) ∧ Inv (d1.setValue a v) [a] as ∧ (d1.setValue a v).length = d.length ∧
      (d1.setValue a v).load a = ⟨0, a, 0, v⟩ ∧ ∀ b, b ≠ a → (d1.setValue a v).load b = d.load b := by
  obtain ⟨d1, a, hg, hi1, hl1, hla, hlo⟩ := getElement_inv h
  exact ⟨d1, a, hg, store_det_inv hi1 (by simp) _, hl1, by rw [load_store_self (hi1.range a (by simp)).2, hla],
    fun b hb => by rw [load_store_ne hb, hlo b hb]⟩

theorem pushBack_core (h : WF d as) (v : Nat) : ∃ d' a, d.pushBack v = some (d', a) ∧ Written d d' as a [] v := by
  obtain ⟨d1, a, hg, hi, hl, hla, hlo⟩ := newSlot_inv h.inv v
  obtain ⟨d', hp, hi', hl', hv⟩ := doPushBack_inv hi hla
  exact ⟨d', a, by simp [pushBack, hg, hp], wf_of_inv hi' (by rw [hl', hl, h.len_eq]; simp), by rw [hv, hla],
    fun b hb => by rw [hv, hlo b hb]⟩

theorem pushFront_core (h : WF d as) (v : Nat) : ∃ d' a, d.pushFront v = some (d', a) ∧ Written d d' [] a as v := by
  obtain ⟨d1, a, hg, hi, hl, hla, hlo⟩ := newSlot_inv h.inv v
  obtain ⟨d', hp, hi', hl', hv⟩ := doPushFront_inv hi hla
  exact ⟨d', a, by simp [pushFront, hg, hp], wf_of_inv hi' (by rw [hl', hl, h.len_eq]; simp), by rw [hv, hla],
    fun b hb => by rw [hv, hlo b hb]⟩

theorem insertAfter_core (h : WF d (l ++ m :: r)) (v : Nat) :
    ∃ d' a, d.insertAfter v m = some (d', a) ∧ Written d d' (l ++ [m]) a r v := by
  obtain ⟨d', a, hins, hi, hl, hv, hvo⟩ := insertAfter_inv h.inv v
  exact ⟨d', a, hins, wf_of_inv (by simpa using hi) (by rw [hl, h.len_eq]; simp; omega), hv, hvo⟩

theorem insertBefore_core (h : WF d (l ++ m :: r)) (v : Nat) :
    ∃ d' a, d.insertBefore v m = some (d', a) ∧ Written d d' l a (m :: r) v := by
  obtain ⟨d', a, hins, hi, hl, hv, hvo⟩ := insertBefore_inv h.inv v
  exact ⟨d', a, hins, wf_of_inv hi (by rw [hl, h.len_eq]; simp; omega), hv, hvo⟩

theorem store_value_inv (h : Inv d det as) (ha : a ∈ as) (v : Nat) : Inv (d.setValue a v) det as := by
  have hal := h.range a (by simp [ha])
  refine ⟨h.tmpl, h.nodup, by simpa using h.range, by simpa using h.cover, h.head_eq, h.tail_eq, ?_, ?_⟩
  · refine (chain_congr ?_).mpr h.links
    intro b hb
    by_cases hba : b = a
    · subst hba; rw [load_store_self hal.2]; simp
    · rw [load_store_ne hba]; simp
  · intro b hb
    simp only [store_stack] at hb
    rw [load_store_ne ((List.nodup_append.mp h.nodup).2.2 a (List.mem_append_right _ ha) b hb).symm]
    exact h.free b hb

theorem update_core (h : WF d (l ++ a :: r)) (v : Nat) :
    d.update a v = some (d.setValue a v) ∧ Written d (d.setValue a v) l a r v := by
  have ha := h.range a (by simp)
  exact ⟨by simp [update, get_of_lt ha.2, Nat.ne_of_gt ha.1],
    wf_of_inv (store_value_inv h.inv (by simp) v) (by simpa using h.len_eq), by rw [load_store_self ha.2],
    fun b hb => by rw [load_store_ne hb]⟩

theorem get_firstOr (hr : ∀ a ∈ r, a < d.elements.length) : d.get (firstOr r 0) = some (firstOr r 0) :=
  get_of_zero_or_lt ((firstOr_mem_or r 0).imp (·.1) (hr _))

theorem get_lastOr (hl : ∀ a ∈ l, a < d.elements.length) : d.get (lastOr l 0) = some (lastOr l 0) :=
  get_of_zero_or_lt ((lastOr_mem_or l 0).imp (·.1) (hl _))

theorem front_core (h : Inv d det as) : d.front = some (firstOr as 0) := by
  rw [front, h.head_eq]; exact get_firstOr fun a ha => (h.range a (by simp [ha])).2

theorem back_core (h : Inv d det as) : d.back = some (lastOr as 0) := by
  rw [back, h.tail_eq]; exact get_lastOr fun a ha => (h.range a (by simp [ha])).2

theorem autoReset_wf (htm : d.template = {}) : WF d.autoReset [] := by
  obtain ⟨hh, ht, hl, htm', hst, hsz⟩ := autoReset_spec d
  refine ⟨htm' ▸ htm, by simp [hst], by simp [hst], ?_, hh, ht, hl, by simp, by simp [hst]⟩
  simp only [hst, hsz, List.length_nil]
  omega

theorem remove_core (h : WF d (l ++ a :: r)) :
    ∃ d', d.remove a = some d' ∧ WF d' (l ++ r) ∧ ∀ b ∈ l ++ r, (d'.load b).value = (d.load b).value := by
  have ha := h.range a (by simp)
  obtain ⟨d1, hrm, hi1, hl1, hla, hv1⟩ := doRemove_inv h.inv
  have haddr : (d1.load a).addr = a := by rw [hla]; exact h.inv.addr_eq (by simp)
  obtain ⟨hi2, hl2, hlo2⟩ := putElement_inv hi1 haddr
  have hlen2 : (d1.putElement a).length = ((l ++ r).length : Nat) := by
    rw [hl2, hl1, h.len_eq]; simp; omega
  have hrem : d.remove a =
      some (if (d1.putElement a).length = 0 then (d1.putElement a).autoReset else d1.putElement a) := by
    simp [remove, get_of_lt ha.2, Nat.ne_of_gt ha.1, hrm]
  rw [hrem]
  by_cases hz : (d1.putElement a).length = 0
  · have hnil : l ++ r = [] := List.eq_nil_of_length_eq_zero (by omega)
    rw [if_pos hz, hnil]
    exact ⟨_, rfl, autoReset_wf hi2.tmpl, by simp⟩
  · refine ⟨_, if_neg hz ▸ rfl, wf_of_inv hi2 hlen2, fun b hb => ?_⟩
    have : b ≠ a := fun e => h.not_mem (e ▸ hb)
    rw [hlo2 b this, hv1]

theorem popFront_nil (h : WF d []) : d.popFront = some (d, 0) := by
  simp [popFront, front_core h.inv]

theorem popBack_nil (h : WF d []) : d.popBack = some (d, 0) := by
  simp [popBack, back_core h.inv]

theorem popFront_core (h : WF d as) :
    ∃ d', d.popFront = some (d', (abs d as).head?.getD 0) ∧ WF d' as.tail ∧
      ∀ b ∈ as.tail, (d'.load b).value = (d.load b).value := by
  cases as with
  | nil => exact ⟨d, popFront_nil h, h, fun _ _ => rfl⟩
  | cons a r =>
    obtain ⟨d', hu, hw, hv⟩ := remove_core (l := []) h
    have ha := h.range a (by simp)
    have hh : d.head = a := by simpa using h.head_eq
    have : d.popFront = (d.remove a).map fun d' => (d', (d.load a).value) := by
      simp [popFront, front, remove, hh, get_of_lt ha.2, Nat.ne_of_gt ha.1]
      cases d.doRemove a <;> simp
    exact ⟨d', by rw [this, hu]; rfl, hw, hv⟩

theorem popBack_core (h : WF d as) :
    ∃ d', d.popBack = some (d', (abs d as).getLast?.getD 0) ∧ WF d' as.dropLast ∧
      ∀ b ∈ as.dropLast, (d'.load b).value = (d.load b).value := by
  rcases List.eq_nil_or_concat as with rfl | ⟨l, a, rfl⟩
  · exact ⟨d, popBack_nil h, h, fun _ _ => rfl⟩
  · rw [List.concat_eq_append] at h ⊢
    obtain ⟨d', hu, hw, hv⟩ := remove_core (r := []) h
    have ha := h.range a (by simp)
    have hh : d.tail = a := by simpa using h.tail_eq
    have : d.popBack = (d.remove a).map fun d' => (d', (d.load a).value) := by
      simp [popBack, back, remove, hh, get_of_lt ha.2, Nat.ne_of_gt ha.1]
      cases d.doRemove a <;> simp
    exact ⟨d', by rw [this, hu]; simp, by simpa using hw, by simpa using hv⟩

theorem moveTo_detach (h : WF d (l ++ a :: r)) :
    ∃ d2, d.moveToBack a = d2.doPushBack a ∧ d.moveToFront a = d2.doPushFront a ∧ Inv d2 [a] (l ++ r) ∧
      d2.length + 1 = ((l ++ a :: r).length : Nat) ∧ d2.load a = ⟨0, a, 0, (d.load a).value⟩ ∧
      ∀ b, (d2.load b).value = (d.load b).value := by
  have ha := h.range a (by simp)
  obtain ⟨d1, hrm, hi1, hl1, hla, hv1⟩ := doRemove_inv h.inv
  have hld : (d1.store a { d1.load a with prev := 0, next := 0 }).load a = ⟨0, a, 0, (d.load a).value⟩ := by
    rw [load_store_self (hi1.range a (by simp)).2, hla]
    simp [h.inv.addr_eq]
  refine ⟨d1.store a { d1.load a with prev := 0, next := 0 },
    by simp [moveToBack, get_of_lt ha.2, Nat.ne_of_gt ha.1, hrm],
    by simp [moveToFront, get_of_lt ha.2, Nat.ne_of_gt ha.1, hrm], store_det_inv hi1 (by simp) _, ?_, hld, fun b => ?_⟩
  · rw [store_length, hl1, h.len_eq]; simp
  · by_cases hb : b = a
    · rw [hb, hld]
    · rw [load_store_ne hb, hv1]

theorem moveToBack_core (h : WF d (l ++ a :: r)) :
    ∃ d', d.moveToBack a = some d' ∧ WF d' (l ++ r ++ [a]) ∧ ∀ b, (d'.load b).value = (d.load b).value := by
  obtain ⟨d2, hmb, -, hi, hl, ha, hv⟩ := moveTo_detach h
  obtain ⟨d', hp, hi', hl', hv'⟩ := doPushBack_inv hi ha
  exact ⟨d', hmb ▸ hp, wf_of_inv hi' (by rw [hl', hl]; simp), fun b => by rw [hv', hv]⟩

theorem moveToFront_core (h : WF d (l ++ a :: r)) :
    ∃ d', d.moveToFront a = some d' ∧ WF d' (a :: (l ++ r)) ∧ ∀ b, (d'.load b).value = (d.load b).value := by
  obtain ⟨d2, -, hmf, hi, hl, ha, hv⟩ := moveTo_detach h
  obtain ⟨d', hp, hi', hl', hv'⟩ := doPushFront_inv hi ha
  exact ⟨d', hmf ▸ hp, wf_of_inv hi' (by rw [hl', hl]; simp; omega), fun b => by rw [hv', hv]⟩

/-- the specification of `Range` on a list of elements: fold the callback, stop after the first
element on which it answers `false` -/
def foldUntil {σ : Type} (f : σ → Elem → σ × Bool) : σ → List Elem → σ
  | s, [] => s
  | s, e :: es => if (f s e).2 = false then (f s e).1 else foldUntil f (f s e).1 es

theorem rangeLoop_chain {σ : Type} (f : σ → Elem → σ × Bool) {p : Nat}
    (hc : Chain d.load p as 0) (hr : ∀ a ∈ as, 0 < a ∧ a < d.elements.length) {fuel : Nat}
    (hf : as.length ≤ fuel) (s : σ) :
    rangeLoop d f fuel (firstOr as 0) s = some (foldUntil f s (as.map d.load)) := by
  induction as generalizing p fuel s with
  | nil => cases fuel <;> simp [rangeLoop, foldUntil]
  | cons a rest ih =>
    cases fuel with
    | zero => simp at hf
    | succ fuel =>
      have ha := hr a (by simp)
      simp only [chain_cons] at hc
      have hnext : d.get (d.load a).next = some (firstOr rest 0) := by
        rw [hc.2.2.1]; exact get_firstOr fun b hb => (hr b (by simp [hb])).2
      simp only [firstOr_cons, rangeLoop, Nat.ne_of_gt ha.1, if_false, List.map_cons, foldUntil, hnext]
      split
      · rfl
      · exact ih hc.2.2.2 (fun b hb => hr b (by simp [hb])) (by simpa using hf) _

theorem range_core {σ : Type} (h : Inv d det as) (f : σ → Elem → σ × Bool)
    (s : σ) : d.range f s = some (foldUntil f s (as.map d.load)) := by
  have hget : d.get d.head = some (firstOr as 0) := front_core h
  have hfuel : as.length ≤ d.elements.length := by
    have := h.cover
    simp only [List.length_append] at this
    omega
  simp only [range, hget, Option.bind_eq_bind, Option.bind_some]
  exact rangeLoop_chain f h.links (fun a ha => h.range a (by simp [ha])) hfuel s

theorem foldUntil_collect (es : List Elem) (acc : List Nat) :
    foldUntil (fun (acc : List Nat) e => (acc ++ [e.value], true)) acc es = acc ++ es.map (·.value) := by
  induction es generalizing acc with
  | nil => simp [foldUntil]
  | cons e es ih => simp [foldUntil, ih]

theorem range_all_core (h : Inv d det as) :
    d.range (fun (acc : List Nat) e => (acc ++ [e.value], true)) [] = some (abs d as) := by
  rw [range_core h, foldUntil_collect]; simp [abs]

/-- the callback that `Op.range k` (in `Refine`) passes to `Range`: record up to `k` values, then ask to stop -/
def takeCb (k : Nat) : List Nat × Nat → Elem → (List Nat × Nat) × Bool :=
  fun s e => if s.2 ≥ k then (s, false) else ((s.1 ++ [e.value], s.2 + 1), true)

theorem foldUntil_takeCb (k : Nat) (es : List Elem) (acc : List Nat) (c : Nat) :
    (foldUntil (takeCb k) (acc, c) es).1 = acc ++ (es.map (·.value)).take (k - c) := by
  induction es generalizing acc c with
  | nil => simp [foldUntil]
  | cons e es ih =>
    by_cases hc : c ≥ k
    · have : k - c = 0 := by omega
      simp [foldUntil, takeCb, hc, this]
    · have : k - c = (k - (c + 1)) + 1 := by omega
      simp [foldUntil, takeCb, hc, ih, this]

theorem clone_eq (d : Deque) : d.clone = d := by
  simp [clone]

theorem slots_cover {L : List Nat} {N : Nat} (hn : L.Nodup) (hr : ∀ a ∈ L, 0 < a ∧ a < N)
    (hl : L.length = N - 1) : ∀ i, 0 < i → i < N → i ∈ L := by
  intro i hi0 hiN
  -- pigeonhole: else `i :: L` is `N` distinct slots among `1 .. N-1`
  by_cases hi : i ∈ L
  · exact hi
  · have := List.Nodup.length_le_of_subset (l₁ := i :: L) (l₂ := List.range' 1 (N - 1))
      (List.nodup_cons.mpr ⟨hi, hn⟩) (by
        intro a ha
        have : 0 < a ∧ a < N := by
          rcases List.mem_cons.mp ha with rfl | ha
          · exact ⟨hi0, hiN⟩
          · exact hr a ha
        simp only [List.mem_range'_1]; omega)
    simp only [List.length_cons, List.length_range', hl] at this
    omega

end Deque
