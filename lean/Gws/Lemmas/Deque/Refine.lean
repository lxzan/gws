import Gws.Lemmas.Deque.Ops
/-!
# Deque: operation sequences over abstract element ids, on the model and on plain lists

An *id* is the ordinal (0-based, over the whole run) of the push/insert operation that created an
element.  `SState`/`SInst.step` is the reference: every instance is a plain list of `(id, value)`
pairs.  `MState`/`MInst.step` runs the same operations on the model, keeping for every instance a
map from ids to handles (the address the push/insert returned).  `clone` appends a copy of the current
instance (with its id map) as a new instance, `use k` switches the current instance.

The reference rejects (`none`) only an operation that names an id that is not live in the current
instance and a `use` of an instance that does not exist; `run_refines` is about the accepted
sequences.  The relation `RI` between an instance and its reference list is carried through an operation
by the operation's lemma in `Ops` and then `RI.keep` (no value written: the new sequence is part of the
old one) or `RI.written` (one value written, under a new id or an old one).
-/

namespace Deque

inductive Op where
  | pushBack (v : Nat)
  | pushFront (v : Nat)
  | popFront
  | popBack
  | insertAfter (v id : Nat)
  | insertBefore (v id : Nat)
  | moveToFront (id : Nat)
  | moveToBack (id : Nat)
  | update (id v : Nat)
  | remove (id : Nat)
  | reset
  /-- `Range` with a callback that records up to `k` values and then stops the iteration -/
  | range (k : Nat)
  | clone
  | use (k : Nat)
deriving Repr, DecidableEq

/-- operations that create an element (and so consume an id) -/
def Op.creates : Op → Bool
  | .pushBack _ | .pushFront _ | .insertAfter _ _ | .insertBefore _ _ => true
  | _ => false

/-- what is observed after every operation, on the instance it was applied to: the operation's own
result (`[value]` read through the returned element for push/insert, `[popped value]` for pop, the
recorded values for `range`), then `Len`, the values seen by a full `Range`, and the values of
`Front`/`Back` (`none` for nil). -/
structure Obs where
  ret : List Nat
  len : Int
  seq : List Nat
  front : Option Nat
  back : Option Nat
deriving Repr, DecidableEq

abbrev Seq := List (Nat × Nat)

def splitId (id : Nat) : Seq → Option (Seq × Nat × Seq)
  | [] => none
  | e :: s =>
    if e.1 = id then some ([], e.2, s)
    else (splitId id s).map fun r => (e :: r.1, r.2.1, r.2.2)

structure SInst where
  s : Seq

def SInst.step (y : SInst) (n : Nat) : Op → Option (SInst × List Nat)
  | .pushBack v => some ({ s := y.s ++ [(n, v)] }, [v])
  | .pushFront v => some ({ s := (n, v) :: y.s }, [v])
  | .popFront => some ({ y with s := y.s.tail }, [(y.s.head?.map (·.2)).getD 0])
  | .popBack => some ({ y with s := y.s.dropLast }, [(y.s.getLast?.map (·.2)).getD 0])
  | .insertAfter v id =>
    (splitId id y.s).map fun r => ({ y with s := r.1 ++ (id, r.2.1) :: (n, v) :: r.2.2 }, [v])
  | .insertBefore v id =>
    (splitId id y.s).map fun r => ({ y with s := r.1 ++ (n, v) :: (id, r.2.1) :: r.2.2 }, [v])
  | .moveToFront id => (splitId id y.s).map fun r => ({ y with s := (id, r.2.1) :: (r.1 ++ r.2.2) }, [])
  | .moveToBack id => (splitId id y.s).map fun r => ({ y with s := r.1 ++ r.2.2 ++ [(id, r.2.1)] }, [])
  | .update id v => (splitId id y.s).map fun r => ({ y with s := r.1 ++ (id, v) :: r.2.2 }, [])
  | .remove id => (splitId id y.s).map fun r => ({ y with s := r.1 ++ r.2.2 }, [])
  | .reset => some ({ y with s := [] }, [])
  | .range k => some (y, (y.s.map (·.2)).take k)
  | .clone => none
  | .use _ => none

def sobserve (s : Seq) (ret : List Nat) : Obs :=
  { ret := ret, len := s.length, seq := s.map (·.2), front := s.head?.map (·.2),
    back := s.getLast?.map (·.2) }

structure SState where
  insts : List SInst
  cur : Nat
  next : Nat

def SState.stepCur (st : SState) (op : Op) : Option (SState × Obs) :=
  match st.insts[st.cur]? with
  | none => none
  | some y =>
    match y.step st.next op with
    | none => none
    | some (y', ret) =>
      some ({ insts := st.insts.set st.cur y', cur := st.cur,
              next := st.next + (if op.creates then 1 else 0) }, sobserve y'.s ret)

def SState.step (st : SState) : Op → Option (SState × Obs)
  | .clone =>
    match st.insts[st.cur]? with
    | none => none
    | some y => some ({ st with insts := st.insts ++ [y] }, sobserve y.s [])
  | .use k =>
    match st.insts[k]? with
    | none => none
    | some y => some ({ st with cur := k }, sobserve y.s [])
  | op => st.stepCur op

def SState.run : SState → List Op → Option (List Obs)
  | _, [] => some []
  | st, op :: ops =>
    match st.step op with
    | none => none
    | some (st', o) => (st'.run ops).map (o :: ·)

structure MInst where
  d : Deque
  /-- id ↦ handle; only consulted for live ids -/
  m : Nat → Nat

/-- record the handle `Addr()` of the element returned by a push/insert under id `n`; calling
`Addr()`/`Value()` on a nil result would be a nil dereference -/
def MInst.created (x : MInst) (n : Nat) (r : Deque × Nat) : Option (MInst × List Nat) :=
  if r.2 = 0 then none
  else some ({ d := r.1, m := fun i => if i = n then (r.1.load r.2).addr else x.m i }, [(r.1.load r.2).value])

def MInst.step (x : MInst) (n : Nat) : Op → Option (MInst × List Nat)
  | .pushBack v => (x.d.pushBack v).bind (x.created n)
  | .pushFront v => (x.d.pushFront v).bind (x.created n)
  | .popFront => (x.d.popFront).map fun r => ({ x with d := r.1 }, [r.2])
  | .popBack => (x.d.popBack).map fun r => ({ x with d := r.1 }, [r.2])
  | .insertAfter v id => (x.d.insertAfter v (x.m id)).bind (x.created n)
  | .insertBefore v id => (x.d.insertBefore v (x.m id)).bind (x.created n)
  | .moveToFront id => (x.d.moveToFront (x.m id)).map fun d => ({ x with d := d }, [])
  | .moveToBack id => (x.d.moveToBack (x.m id)).map fun d => ({ x with d := d }, [])
  | .update id v => (x.d.update (x.m id) v).map fun d => ({ x with d := d }, [])
  | .remove id => (x.d.remove (x.m id)).map fun d => ({ x with d := d }, [])
  | .reset => some ({ x with d := x.d.reset }, [])
  | .range k => (x.d.range (takeCb k) ([], 0)).map fun r => (x, r.1)
  | .clone => none
  | .use _ => none

def observe (d : Deque) (ret : List Nat) : Option Obs :=
  (d.range (fun (acc : List Nat) e => (acc ++ [e.value], true)) []).bind fun seq =>
  d.front.bind fun f =>
  d.back.bind fun b =>
  some { ret := ret, len := d.len, seq := seq,
         front := if f = 0 then none else some (d.load f).value,
         back := if b = 0 then none else some (d.load b).value }

structure MState where
  insts : List MInst
  cur : Nat
  next : Nat

def MState.stepCur (st : MState) (op : Op) : Option (MState × Obs) :=
  match st.insts[st.cur]? with
  | none => none
  | some x =>
    match x.step st.next op with
    | none => none
    | some (x', ret) =>
      (observe x'.d ret).map fun o =>
        ({ insts := st.insts.set st.cur x', cur := st.cur,
           next := st.next + (if op.creates then 1 else 0) }, o)

def MState.step (st : MState) : Op → Option (MState × Obs)
  | .clone =>
    match st.insts[st.cur]? with
    | none => none
    | some x =>
      (observe x.d []).map fun o => ({ st with insts := st.insts ++ [{ d := x.d.clone, m := x.m }] }, o)
  | .use k =>
    match st.insts[k]? with
    | none => none
    | some x => (observe x.d []).map fun o => ({ st with cur := k }, o)
  | op => st.stepCur op

def MState.run : MState → List Op → Option (List Obs)
  | _, [] => some []
  | st, op :: ops =>
    match st.step op with
    | none => none
    | some (st', o) => (st'.run ops).map (o :: ·)

def MState.init (d : Deque) : MState := { insts := [{ d := d, m := fun _ => 0 }], cur := 0, next := 0 }

def SState.init : SState := { insts := [{ s := [] }], cur := 0, next := 0 }

def handles (m : Nat → Nat) (s : Seq) : List Nat := s.map fun e => m e.1

@[simp] theorem handles_nil (m : Nat → Nat) : handles m [] = [] := rfl
@[simp] theorem handles_cons (m : Nat → Nat) (e : Nat × Nat) (s : Seq) :
    handles m (e :: s) = m e.1 :: handles m s := rfl
@[simp] theorem handles_append (m : Nat → Nat) (s t : Seq) :
    handles m (s ++ t) = handles m s ++ handles m t := by simp [handles]
@[simp] theorem handles_length (m : Nat → Nat) (s : Seq) : (handles m s).length = s.length := by
  simp [handles]

theorem mem_handles {m : Nat → Nat} {s : Seq} {e : Nat × Nat} (h : e ∈ s) : m e.1 ∈ handles m s :=
  List.mem_map.mpr ⟨e, h, rfl⟩

theorem splitId_some {id : Nat} {s sl sr : Seq} {w : Nat} (h : splitId id s = some (sl, w, sr)) :
    s = sl ++ (id, w) :: sr := by
  fun_induction splitId id s generalizing sl with
  | case1 => cases h
  | case2 e s he =>
    cases h
    simp [← he]
  | case3 e s he ih =>
    obtain ⟨⟨sl', w', sr'⟩, hsp, heq⟩ := Option.map_eq_some_iff.mp h
    cases heq
    rw [ih hsp]; rfl

theorem mem_insert_of_mem {α : Type} {p q : List α} {a e : α} (he : e ∈ p ++ q) : e ∈ p ++ a :: q :=
  List.perm_middle.mem_iff.mpr (List.mem_cons_of_mem a he)

theorem forall_mem_insert {α : Type} {P : α → Prop} {p q : List α} {a : α} (h : ∀ e ∈ p ++ q, P e) (ha : P a) :
    ∀ e ∈ p ++ a :: q, P e := fun e he =>
  (List.mem_cons.mp (List.perm_middle.mem_iff.mp he)).elim (fun h' => h' ▸ ha) (h e)

/-- instance `x` of the model represents the reference sequence `y.s`: the handles recorded for its
ids form the live sequence of a well-formed deque, in order, with the same values; all ids are below
the id counter `n`.  Well-formedness is held as `Inv … [] …` with the length equation, the form the observations are read
from (`observe_refines`); `RI.wf` and `RI.of_wf` pass to and from `WF`. -/
structure RI (n : Nat) (x : MInst) (y : SInst) : Prop where
  inv : Inv x.d [] (handles x.m y.s)
  len : x.d.length = (y.s.length : Nat)
  vals : ∀ e ∈ y.s, (x.d.load (x.m e.1)).value = e.2
  ids : ∀ e ∈ y.s, e.1 < n

section
variable {n : Nat} {x : MInst} {y : SInst}

theorem RI.mono {n' : Nat} (h : RI n x y) (hn : n ≤ n') : RI n' x y :=
  ⟨h.inv, h.len, h.vals, fun e he => Nat.lt_of_lt_of_le (h.ids e he) hn⟩

theorem RI.wf (h : RI n x y) : WF x.d (handles x.m y.s) :=
  wf_of_inv h.inv (by simpa using h.len)

theorem RI.of_wf {n : Nat} {d : Deque} {m : Nat → Nat} {s : Seq} (hw : WF d (handles m s))
    (hv : ∀ e ∈ s, (d.load (m e.1)).value = e.2) (hid : ∀ e ∈ s, e.1 < n) : RI n { d := d, m := m } { s := s } :=
  ⟨hw.inv, by simpa using hw.len_eq, hv, hid⟩

theorem RI.split {y' : SInst} {id : Nat} {f : Seq × Nat × Seq → SInst × List Nat} {ret : List Nat}
    (h : RI n x y) (hs : (splitId id y.s).map f = some (y', ret)) :
    ∃ sl w sr, y.s = sl ++ (id, w) :: sr ∧ y' = (f (sl, w, sr)).1 ∧ ret = (f (sl, w, sr)).2 ∧
      WF x.d (handles x.m sl ++ x.m id :: handles x.m sr) := by
  obtain ⟨⟨sl, w, sr⟩, hsp, hf⟩ := Option.map_eq_some_iff.mp hs
  have hys := splitId_some hsp
  have hw := h.wf
  rw [hys] at hw
  exact ⟨sl, w, sr, hys, by rw [hf], by rw [hf], by simpa using hw⟩

theorem RI.abs_eq (h : RI n x y) : abs x.d (handles x.m y.s) = y.s.map (·.2) := by
  simp only [abs, handles, List.map_map]
  exact List.map_congr_left h.vals

theorem observe_refines (h : RI n x y) (ret : List Nat) :
    observe x.d ret = some (sobserve y.s ret) := by
  have hf := front_core h.inv
  have hb := back_core h.inv
  simp only [observe, range_all_core h.inv, hf, hb, Option.bind_some, sobserve, h.abs_eq, len, h.len]
  congr 2
  · cases hs : y.s with
    | nil => simp
    | cons e s =>
      have := h.inv.range (x.m e.1) (by simp [hs])
      have hv := h.vals e (by simp [hs])
      simp [Nat.ne_of_gt this.1, hv]
  · rcases List.eq_nil_or_concat y.s with hs | ⟨s, e, hs⟩
    · simp [hs]
    · have := h.inv.range (x.m e.1) (by simp [hs])
      have hv := h.vals e (by simp [hs])
      simp [hs, Nat.ne_of_gt this.1, hv]

theorem RI.keep (h : RI n x y) {d' : Deque} {s : Seq} (hsub : ∀ e ∈ s, e ∈ y.s)
    (hw : WF d' (handles x.m s)) (hv : ∀ b ∈ handles x.m s, (d'.load b).value = (x.d.load b).value) :
    RI n { x with d := d' } { s := s } :=
  RI.of_wf hw (fun e he => by rw [hv _ (mem_handles he)]; exact h.vals e (hsub e he)) fun e he => h.ids e (hsub e he)

theorem RI.written {n' : Nat} (h : RI n x y) {p q : Seq} (hsub : ∀ e ∈ p ++ q, e ∈ y.s)
    {d' : Deque} {m' : Nat → Nat} {i v : Nat} (hm : ∀ e ∈ p ++ q, m' e.1 = x.m e.1)
    (hc : Written x.d d' (handles x.m p) (m' i) (handles x.m q) v) (hn : n ≤ n') (hi : i < n') :
    RI n' { d := d', m := m' } { s := p ++ (i, v) :: q } := by
  have hp : handles m' p = handles x.m p := List.map_congr_left fun e he => hm e (List.mem_append_left q he)
  have hq : handles m' q = handles x.m q := List.map_congr_left fun e he => hm e (List.mem_append_right p he)
  refine RI.of_wf (by simpa [hp, hq] using hc.wf) (forall_mem_insert (fun e he => ?_) hc.value)
    (forall_mem_insert (fun e he => Nat.lt_of_lt_of_le (h.ids e (hsub e he)) hn) hi)
  rw [hm e he, hc.rest _ (by rw [← handles_append]; exact mem_handles he)]
  exact h.vals e (hsub e he)

theorem created_refines (h : RI n x y) {p q : Seq} (hs : y.s = p ++ q)
    {r : Option (Deque × Nat)} {v : Nat}
    (hr : ∃ d' a, r = some (d', a) ∧ Written x.d d' (handles x.m p) a (handles x.m q) v) :
    ∃ x', r.bind (x.created n) = some (x', [v]) ∧ RI (n + 1) x' { s := p ++ (n, v) :: q } := by
  obtain ⟨d', a, rfl, hc⟩ := hr
  have ha := hc.wf.range a (by simp)
  refine ⟨{ d := d', m := fun i => if i = n then a else x.m i }, ?_,
    h.written (fun e he => hs ▸ he) (fun e he => if_neg (Nat.ne_of_lt (h.ids e (hs ▸ he)))) (by simpa using hc)
      (Nat.le_succ n) (Nat.lt_succ_self n)⟩
  simp [MInst.created, Nat.ne_of_gt ha.1, hc.wf.inv.addr_eq (a := a) (by simp), hc.value]

theorem inst_step_refines {y' : SInst} {op : Op} {ret : List Nat} (h : RI n x y)
    (hs : y.step n op = some (y', ret)) :
    ∃ x', x.step n op = some (x', ret) ∧ RI (n + (if op.creates then 1 else 0)) x' y' := by
  cases op with
  | pushBack v =>
    cases hs
    exact created_refines h (p := y.s) (q := []) (by simp) (pushBack_core h.wf v)
  | pushFront v =>
    cases hs
    exact created_refines h (p := []) (q := y.s) rfl (pushFront_core h.wf v)
  | popFront =>
    cases hs
    obtain ⟨d', hp, hw, hv⟩ := popFront_core h.wf
    exact ⟨{ x with d := d' }, by simp [MInst.step, hp, h.abs_eq],
      h.keep (fun e => List.mem_of_mem_tail) (by simpa [handles] using hw) (by simpa [handles] using hv)⟩
  | popBack =>
    cases hs
    obtain ⟨d', hp, hw, hv⟩ := popBack_core h.wf
    exact ⟨{ x with d := d' }, by simp [MInst.step, hp, h.abs_eq],
      h.keep (fun e he => List.dropLast_subset _ he) (by simpa [handles] using hw) (by simpa [handles] using hv)⟩
  | insertAfter v id =>
    obtain ⟨sl, w, sr, hys, rfl, rfl, hw⟩ := h.split hs
    have := created_refines h (p := sl ++ [(id, w)]) (q := sr) (by simp [hys]) (by simpa using insertAfter_core hw v)
    rw [List.append_assoc] at this
    exact this
  | insertBefore v id =>
    obtain ⟨sl, w, sr, hys, rfl, rfl, hw⟩ := h.split hs
    exact created_refines h (p := sl) (q := (id, w) :: sr) hys (insertBefore_core hw v)
  | moveToFront id =>
    obtain ⟨sl, w, sr, hys, rfl, rfl, hw⟩ := h.split hs
    obtain ⟨d', hp, hw', hv⟩ := moveToFront_core hw
    have hsub : ∀ e ∈ (id, w) :: (sl ++ sr), e ∈ y.s := fun e he => hys ▸ List.perm_middle.mem_iff.mpr he
    exact ⟨{ x with d := d' }, by simp [MInst.step, hp], h.keep hsub (by simpa using hw') fun b _ => hv b⟩
  | moveToBack id =>
    obtain ⟨sl, w, sr, hys, rfl, rfl, hw⟩ := h.split hs
    obtain ⟨d', hp, hw', hv⟩ := moveToBack_core hw
    have hsub : ∀ e ∈ sl ++ sr ++ [(id, w)], e ∈ y.s := fun e he =>
      hys ▸ List.perm_middle.mem_iff.mpr (List.perm_append_singleton _ _ |>.mem_iff.mp he)
    exact ⟨{ x with d := d' }, by simp [MInst.step, hp], h.keep hsub (by simpa using hw') fun b _ => hv b⟩
  | update id v =>
    obtain ⟨sl, w, sr, hys, rfl, rfl, hw⟩ := h.split hs
    obtain ⟨hu, hc⟩ := update_core hw v
    exact ⟨{ x with d := x.d.setValue (x.m id) v }, by simp [MInst.step, hu],
      h.written (fun e he => hys ▸ mem_insert_of_mem he) (fun _ _ => rfl) hc (Nat.le_refl n) (h.ids (id, w) (by simp [hys]))⟩
  | remove id =>
    obtain ⟨sl, w, sr, hys, rfl, rfl, hw⟩ := h.split hs
    obtain ⟨d', hu, hw', hv⟩ := remove_core hw
    exact ⟨{ x with d := d' }, by simp [MInst.step, hu],
      h.keep (fun e he => hys ▸ mem_insert_of_mem he) (by simpa using hw') (by simpa using hv)⟩
  | reset =>
    cases hs
    exact ⟨{ x with d := x.d.reset }, by simp [MInst.step], RI.of_wf (autoReset_wf h.inv.tmpl) (by simp) (by simp)⟩
  | range k =>
    cases hs
    have hvals : ((handles x.m y.s).map x.d.load).map (·.value) = y.s.map (·.2) := by
      rw [← h.abs_eq]; simp [abs]
    refine ⟨x, ?_, by simpa [Op.creates] using h⟩
    simp [MInst.step, range_core h.inv, foldUntil_takeCb, hvals]
  | clone => simp [SInst.step] at hs
  | use k => simp [SInst.step] at hs

end

structure R (st : MState) (sst : SState) : Prop where
  cur : st.cur = sst.cur
  next : st.next = sst.next
  len : st.insts.length = sst.insts.length
  inst : ∀ k (h1 : k < st.insts.length) (h2 : k < sst.insts.length), RI st.next st.insts[k] sst.insts[k]

theorem R.get {st : MState} {sst : SState} (h : R st sst) {k : Nat} {y : SInst} (hy : sst.insts[k]? = some y) :
    ∃ hk : k < st.insts.length, RI st.next st.insts[k] y := by
  obtain ⟨hk, hyv⟩ := List.getElem?_eq_some_iff.mp hy
  exact ⟨h.len ▸ hk, hyv ▸ h.inst k (h.len ▸ hk) hk⟩

theorem stepCur_refines {st : MState} {sst sst' : SState} {op : Op} {o : Obs} (h : R st sst)
    (hs : sst.stepCur op = some (sst', o)) : ∃ st', st.stepCur op = some (st', o) ∧ R st' sst' := by
  unfold SState.stepCur at hs
  cases hy : sst.insts[sst.cur]? with
  | none => simp [hy] at hs
  | some y =>
    cases hstep : y.step sst.next op with
    | none => simp [hy, hstep] at hs
    | some r =>
      obtain ⟨y', ret⟩ := r
      simp only [hy, hstep, Option.some.injEq, Prod.mk.injEq] at hs
      obtain ⟨rfl, rfl⟩ := hs
      obtain ⟨hc1, hri⟩ := h.get (h.cur ▸ hy)
      rw [← h.next] at hstep
      obtain ⟨x', hx, hr⟩ := inst_step_refines hri hstep
      refine ⟨{ insts := st.insts.set st.cur x', cur := st.cur,
                next := st.next + (if op.creates then 1 else 0) },
        by simp [MState.stepCur, List.getElem?_eq_getElem hc1, hx, observe_refines hr], ?_⟩
      refine ⟨h.cur, by simp [h.next], by simp [h.len], ?_⟩
      intro k h1 h2
      simp only [List.getElem_set]
      simp only [List.length_set] at h1 h2
      by_cases hk : st.cur = k
      · simp only [hk, h.cur ▸ hk, if_true]
        exact hr
      · have hk' : ¬ sst.cur = k := by rw [← h.cur]; exact hk
        simp only [hk, hk', if_false]
        exact (h.inst k h1 h2).mono (Nat.le_add_right _ _)

theorem step_refines {st : MState} {sst sst' : SState} {op : Op} {o : Obs} (h : R st sst)
    (hs : sst.step op = some (sst', o)) : ∃ st', st.step op = some (st', o) ∧ R st' sst' := by
  cases op with
  | clone =>
    simp only [SState.step] at hs
    cases hy : sst.insts[sst.cur]? with
    | none => simp [hy] at hs
    | some y =>
      simp only [hy, Option.some.injEq, Prod.mk.injEq] at hs
      obtain ⟨rfl, rfl⟩ := hs
      obtain ⟨hc1, hri⟩ := h.get (h.cur ▸ hy)
      refine ⟨{ st with insts := st.insts ++ [{ d := st.insts[st.cur].d.clone, m := st.insts[st.cur].m }] },
        by simp [MState.step, List.getElem?_eq_getElem hc1, observe_refines hri], ?_⟩
      refine ⟨h.cur, h.next, by simp [h.len], ?_⟩
      intro k h1 h2
      simp only [List.length_append, List.length_singleton] at h1 h2
      by_cases hk : k < st.insts.length
      · have hk2 : k < sst.insts.length := h.len ▸ hk
        simp only [List.getElem_append_left hk, List.getElem_append_left hk2]
        exact h.inst k hk hk2
      · have hk1 : st.insts.length ≤ k := by omega
        have hk2 : sst.insts.length ≤ k := h.len ▸ hk1
        simp only [List.getElem_append_right hk1, List.getElem_append_right hk2, List.getElem_singleton]
        rw [clone_eq]; exact hri
  | use k =>
    simp only [SState.step] at hs
    cases hy : sst.insts[k]? with
    | none => simp [hy] at hs
    | some y =>
      simp only [hy, Option.some.injEq, Prod.mk.injEq] at hs
      obtain ⟨rfl, rfl⟩ := hs
      obtain ⟨hc1, hri⟩ := h.get hy
      refine ⟨{ st with cur := k },
        by simp [MState.step, List.getElem?_eq_getElem hc1, observe_refines hri], ?_⟩
      exact ⟨rfl, h.next, h.len, h.inst⟩
  -- `op` by hand: `MInst.step` of `reset` alone is a literal `some _`, so the unifier, which unfolds `stepCur`, reduces
  -- the `match` on it and no longer finds `op` by itself
  | reset => exact stepCur_refines (op := .reset) h hs
  | _ => exact stepCur_refines h hs

theorem run_refines {st : MState} {sst : SState} (h : R st sst) (ops : List Op) (obs : List Obs)
    (hs : sst.run ops = some obs) : st.run ops = some obs := by
  induction ops generalizing st sst obs with
  | nil => simpa [SState.run, MState.run] using hs
  | cons op ops ih =>
    simp only [SState.run] at hs
    cases hstep : sst.step op with
    | none => simp [hstep] at hs
    | some r =>
      obtain ⟨sst', o⟩ := r
      simp only [hstep] at hs
      obtain ⟨os, hrun, rfl⟩ := Option.map_eq_some_iff.mp hs
      obtain ⟨st', hst, hr⟩ := step_refines h hstep
      simp [MState.run, hst, ih hr os hrun]

theorem init_related {d : Deque} (h : WF d []) : R (MState.init d) SState.init := by
  refine ⟨rfl, rfl, rfl, ?_⟩
  intro k h1 h2
  simp only [MState.init, List.length_singleton] at h1
  have hk : k = 0 := by omega
  subst hk
  exact RI.of_wf h (by simp) (by simp)

end Deque
