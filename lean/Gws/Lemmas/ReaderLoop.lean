import Gws.Lemmas.ReaderRefine
import Gws.Lemmas.Utf8
/-! # The read loop: it refines the RFC receiver; what every step promises (`Step.Sound`); a step looks at its own
frame only (`step_more_input`); the tactics that evaluate model and spec in the examples of the property files -/

namespace Reader

theorem traceOk_iff (s : Spec.Trace) (t : Trace) :
    traceOk s t = true ↔ t.evs.map Ev.toSpec = s.evs ∧ endOk s.ending t.ending = true := by
  simp only [traceOk, Bool.and_eq_true, decide_eq_true_eq]

theorem readLoop_stop {cfg : Cfg} {codec : Codec} {st : State} {b : Bytes} {evs : List Ev} {e : End}
    (h : step cfg codec st b = .stop evs e) : readLoop cfg codec st b = { evs := evs, ending := e } := by
  rw [readLoop]
  split <;> simp_all

theorem readLoop_ok {cfg : Cfg} {codec : Codec} {st st' : State} {b rest : Bytes} {evs : List Ev}
    (h : step cfg codec st b = .ok st' evs rest) :
    readLoop cfg codec st b =
      { evs := evs ++ (readLoop cfg codec st' rest).evs, ending := (readLoop cfg codec st' rest).ending } := by
  rw [readLoop]
  split <;> simp_all

theorem receiveFuel_refines (cfg : Cfg) (codec : Codec) (st : State) (b : Bytes) :
    ∀ (s : Spec.RxState) (fuel : Nat), Rel cfg st s → b.length < fuel →
      traceOk (Spec.receiveFuel (specCtx cfg st) codec fuel s b) (readLoop cfg codec st b) = true := by
  intro s fuel
  induction fuel generalizing st s b with
  | zero => exact fun _ h => absurd h (Nat.not_lt_zero _)
  | succ fuel ih =>
    intro hrel hfuel
    have hr := step_refines cfg codec st s b hrel
    unfold Spec.receiveFuel
    -- `StepRel` leaves only the cases where both stop or both continue
    cases hm : step cfg codec st b <;> cases hs : Spec.step (specCtx cfg st) codec s b <;> rw [hm, hs] at hr
    case ok.stop | stop.ok => exact hr.elim
    case stop.stop =>
      obtain ⟨rfl, hend⟩ := hr
      rw [readLoop_stop hm]
      exact (traceOk_iff ..).mpr ⟨rfl, hend⟩
    case ok.ok st' evs rest s' sevs srest =>
      obtain ⟨hevs, rfl, hrel', he, hz⟩ := hr
      have := ih st' rest s' hrel' (by have := step_decreases hm; omega)
      -- the step keeps the window parameters, so the spec's context is the same afterwards
      rw [show specCtx cfg st' = specCtx cfg st by unfold specCtx; rw [he, hz], traceOk_iff] at this
      rw [readLoop_ok hm, traceOk_iff]
      exact ⟨by rw [List.map_append, hevs, this.1], this.2⟩

def End.isPanic : End → Bool
  | .panic _ => true
  | _ => false

def Ev.okFor (cfg : Cfg) : Ev → Prop
  | .msg op q => (q.length : Int) ≤ cfg.readMax ∧ Utf8.checkEncoding cfg.checkUtf8 op q = true
  | _ => True

def Step.Sound (cfg : Cfg) (st : State) : Step → Prop
  | .ok st' evs _ =>
    ((st.cont.buffer.length : Int) ≤ cfg.readMax → (st'.cont.buffer.length : Int) ≤ cfg.readMax) ∧
      ∀ ev ∈ evs, ev.okFor cfg
  | .stop evs e => evs = [] ∧ e.isPanic = false

theorem Step.Sound.ok {cfg : Cfg} {st st' : State} {s : Step} {evs : List Ev} {rest : Bytes}
    (h : s.Sound cfg st) (hs : s = .ok st' evs rest) :
    ((st.cont.buffer.length : Int) ≤ cfg.readMax → (st'.cont.buffer.length : Int) ≤ cfg.readMax) ∧
      ∀ ev ∈ evs, ev.okFor cfg := by
  subst hs; exact h

theorem Step.Sound.stop {cfg : Cfg} {st : State} {s : Step} {evs : List Ev} {e : End}
    (h : s.Sound cfg st) (hs : s = .stop evs e) : evs = [] ∧ e.isPanic = false := by
  subst hs; exact h

theorem decompress_ok_le {c : Codec} {limit : Int} {dict data out : Bytes}
    (h : c.decompress limit dict data = .ok out) : (out.length : Int) ≤ limit := by
  unfold Codec.decompress at h
  split at h
  · cases h
  · split at h
    · cases h
    · cases h
      omega

theorem emitMessage_inl {cfg : Cfg} {codec : Codec} {st st' : State} {opcode : Nat} {data : Bytes}
    {compressed : Bool} {ev : Option Ev} (hd : (data.length : Int) ≤ cfg.readMax)
    (h : emitMessage cfg codec st opcode data compressed = .inl (st', ev)) :
    st'.cont = st.cont ∧ ∀ e ∈ ev.toList, e.okFor cfg := by
  revert h
  fun_cases emitMessage cfg codec st opcode data compressed <;> intro h
  case case2 hdec _ hv =>
    obtain ⟨rfl, rfl⟩ := Prod.mk.inj (Sum.inl.inj h)
    exact ⟨rfl, fun e he => by cases List.mem_singleton.mp he; exact ⟨decompress_ok_le hdec, by simpa using hv⟩⟩
  case case5 hv =>
    cases h
    exact ⟨rfl, fun e he => by cases List.mem_singleton.mp he; exact ⟨hd, by simpa using hv⟩⟩
  all_goals cases h

theorem emitMessage_inr {cfg : Cfg} {codec : Codec} {st : State} {opcode : Nat} {data : Bytes}
    {compressed : Bool} {e : End}
    (h : emitMessage cfg codec st opcode data compressed = .inr e) : e.isPanic = false := by
  revert h
  fun_cases emitMessage cfg codec st opcode data compressed <;> intro h <;> cases h <;> rfl

theorem afterPayload_sound (cfg : Cfg) (codec : Codec) (st : State) (h : Frame.Hdr) (p rest : Bytes)
    (hp : (p.length : Int) ≤ cfg.readMax) : (afterPayload cfg codec st h p rest).Sound cfg st := by
  fun_cases afterPayload cfg codec st h p rest
  -- an unfragmented message
  case case2 hem =>
    obtain ⟨hc, hev⟩ := emitMessage_inl hp hem
    exact ⟨fun hb => hc ▸ hb, hev⟩
  -- the last fragment: the buffer with it was tested against the limit just before (`hle`)
  case case7 hle _ _ _ hem =>
    obtain ⟨hc, hev⟩ := emitMessage_inl (Int.not_lt.mp hle) hem
    exact ⟨fun _ => by rw [hc]; exact Int.le_trans (by simp) (Int.not_lt.mp hle), hev⟩
  case case3 hem | case8 hem => exact ⟨rfl, emitMessage_inr hem⟩
  -- a fragment that is not the last one
  case case6 hle _ => exact ⟨fun _ => Int.not_lt.mp hle, by simp⟩
  all_goals exact ⟨rfl, rfl⟩

theorem readControl_sound (cfg : Cfg) (st : State) (h : Frame.Hdr) (rest : Bytes) :
    (readControl cfg st h rest).Sound cfg st := by
  fun_cases readControl cfg st h rest
  case case4 | case5 => exact ⟨id, by simp [Ev.okFor]⟩
  all_goals exact ⟨rfl, rfl⟩

theorem dataFrame_sound (cfg : Cfg) (codec : Codec) (st : State) (h : Frame.Hdr) (rest : Bytes)
    (hlen : 0 ≤ h.len ∧ h.len ≤ cfg.readMax) : (dataFrame cfg codec st h rest).Sound cfg st := by
  rw [dataFrame_eq]
  split
  · exact ⟨rfl, rfl⟩
  · refine afterPayload_sound _ _ _ _ _ _ ?_
    have : ∀ raw : Bytes, (if Frame.getMask h.b1 = true then unmask h.key raw else raw).length = raw.length :=
      fun raw => by split <;> simp only [Writer.unmask_length]
    rw [this, List.length_take]
    omega

theorem step_sound (cfg : Cfg) (codec : Codec) (st : State) (b : Bytes) : (step cfg codec st b).Sound cfg st := by
  fun_cases step cfg codec st b
  case case1 => exact ⟨rfl, rfl⟩
  case case2 hc => rcases headerCheck_some_err hc with rfl | rfl <;> exact ⟨rfl, rfl⟩
  case case3 => exact readControl_sound ..
  case case4 hc _ => exact dataFrame_sound _ _ _ _ _ (headerCheck_none_bound hc)

theorem readLoop_sound (cfg : Cfg) (codec : Codec) (st : State) (b : Bytes) :
    (∀ ev ∈ (readLoop cfg codec st b).evs, ev.okFor cfg) ∧ (readLoop cfg codec st b).ending.isPanic = false := by
  fun_induction readLoop cfg codec st b with
  | case1 st b evs e hstep =>
    obtain ⟨rfl, hp⟩ := (step_sound cfg codec st b).stop hstep
    exact ⟨nofun, hp⟩
  | case2 st b st' evs rest hstep t ih =>
    have := (step_sound cfg codec st b).ok hstep
    exact ⟨fun ev hev => (List.mem_append.mp hev).elim (this.2 ev) (ih.1 ev), ih.2⟩

def Step.mapRest (f : Bytes → Bytes) : Step → Step
  | .ok st evs r => .ok st evs (f r)
  | s => s

theorem Step.mapRest_ok (f : Bytes → Bytes) (st : State) (evs : List Ev) (r : Bytes) :
    (Step.ok st evs r).mapRest f = .ok st evs (f r) := rfl

theorem Step.mapRest_stop (f : Bytes → Bytes) (evs : List Ev) (e : End) :
    (Step.stop evs e).mapRest f = .stop evs e := rfl

/-- the step ran out of input -/
def Step.short : Step → Prop
  | .stop _ e => e = ioErr
  | _ => False

theorem Step.not_short_ok (st : State) (evs : List Ev) (r : Bytes) : ¬ (Step.ok st evs r).short := id

theorem Step.ofEmit_mapRest (f : Bytes → Bytes) (rest : Bytes) (r : (State × Option Ev) ⊕ End) :
    (Step.ofEmit rest r).mapRest f = .ofEmit (f rest) r := by
  rcases r with ⟨_, _⟩ | _ <;> rfl

theorem afterPayload_mapRest (f : Bytes → Bytes) (cfg : Cfg) (codec : Codec) (st : State) (h : Frame.Hdr) (p rest : Bytes) :
    afterPayload cfg codec st h p (f rest) = (afterPayload cfg codec st h p rest).mapRest f := by
  simp only [afterPayload_eq, apply_ite (Step.mapRest f), Step.ofEmit_mapRest, Step.mapRest_ok, Step.mapRest_stop]

theorem readControl_append (cfg : Cfg) (st : State) (h : Frame.Hdr) (rest b₂ : Bytes)
    (hio : ¬ (readControl cfg st h rest).short) :
    readControl cfg st h (rest ++ b₂) = (readControl cfg st h rest).mapRest (· ++ b₂) := by
  unfold readControl at hio ⊢
  cases hf : Frame.getFIN h.b0
  · rfl
  by_cases hn : Frame.getLengthCode h.b1 > Facts.thresholdV1
  · simp only [hn, Bool.not_true, Bool.false_eq_true, if_false, if_true]; rfl
  by_cases hs : rest.length < Frame.getLengthCode h.b1
  · simp [hf, hn, hs, Step.short] at hio
  · have hs' : ¬ (rest ++ b₂).length < Frame.getLengthCode h.b1 := by rw [List.length_append]; omega
    simp only [hn, hs, hs', Bool.not_true, Bool.false_eq_true, if_false,
      List.take_append_of_le_length (Nat.le_of_not_lt hs), List.drop_append_of_le_length (Nat.le_of_not_lt hs),
      apply_ite (Step.mapRest _), Step.mapRest_ok, Step.mapRest_stop]

theorem dataFrame_append (cfg : Cfg) (codec : Codec) (st : State) (h : Frame.Hdr) (rest b₂ : Bytes)
    (hio : ¬ (dataFrame cfg codec st h rest).short) :
    dataFrame cfg codec st h (rest ++ b₂) = (dataFrame cfg codec st h rest).mapRest (· ++ b₂) := by
  rw [dataFrame_eq] at hio ⊢
  by_cases hs : rest.length < h.len.toNat
  · rw [if_pos hs] at hio; exact (hio rfl).elim
  · have hs' : ¬ (rest ++ b₂).length < h.len.toNat := by rw [List.length_append]; omega
    rw [dataFrame_eq, if_neg hs, if_neg hs', List.take_append_of_le_length (Nat.le_of_not_lt hs),
      List.drop_append_of_le_length (Nat.le_of_not_lt hs)]
    exact afterPayload_mapRest (· ++ b₂) ..

theorem step_more_input (cfg : Cfg) (codec : Codec) (st : State) (b₁ b₂ : Bytes)
    (hio : ¬ (step cfg codec st b₁).short) :
    step cfg codec st (b₁ ++ b₂) = (step cfg codec st b₁).mapRest (· ++ b₂) := by
  cases hp : Frame.parse b₁ with
  | needMore => simp only [step, hp] at hio; exact (hio rfl).elim
  | ok h r =>
    rw [step_of_parse hp] at hio ⊢
    rw [step_of_parse (parse_append b₂ hp)]
    cases hc : headerCheck cfg h with
    | some e => rfl
    | none =>
      rw [hc] at hio
      simp only at hio ⊢
      split
      · rename_i hop; rw [if_pos hop] at hio; exact readControl_append _ _ _ _ _ hio
      · rename_i hop; rw [if_neg hop] at hio; exact dataFrame_append _ _ _ _ _ _ hio

theorem step_append {cfg : Cfg} {codec : Codec} {st st' : State} {b₁ rest : Bytes} {evs : List Ev}
    (b₂ : Bytes) (hs : step cfg codec st b₁ = .ok st' evs rest) :
    step cfg codec st (b₁ ++ b₂) = .ok st' evs (rest ++ b₂) := by
  rw [step_more_input _ _ _ _ _ (hs ▸ Step.not_short_ok _ _ _), hs, Step.mapRest_ok]

theorem step_stop_append {cfg : Cfg} {codec : Codec} {st : State} {b₁ : Bytes} {evs : List Ev} {e : End}
    (b₂ : Bytes) (hs : step cfg codec st b₁ = .stop evs e) (hio : e ≠ ioErr) :
    step cfg codec st (b₁ ++ b₂) = .stop evs e := by
  rw [step_more_input _ _ _ _ _ (hs ▸ hio), hs, Step.mapRest_stop]

theorem Rel.init_takeover (cfg : Cfg) (bits : Nat) : Rel cfg { dps := Win.init bits } {} :=
  ⟨Or.inl ⟨rfl, rfl⟩, fun _ => ⟨by simp [Win.init, lastN], by simp [Win.init]⟩, fun h => by simp [Win.init] at h⟩

theorem Rel.init_plain (cfg : Cfg) : Rel cfg {} {} :=
  ⟨Or.inl ⟨rfl, rfl⟩, fun h => by simp [Win.disabled] at h, fun _ => rfl⟩

/-- a stand-in DEFLATE library for examples: "inflating" strips the 9-byte tail again and doubles
the data (so that the output can exceed a limit the input respects) -/
def dupCodec : Codec where
  inflate _ data := some (data.take (data.length - 9) ++ data.take (data.length - 9))
  compress _ _ chunks := chunks.flatten

/-- evaluate one `Reader.step` on concrete bytes -/
macro "reader_eval" "[" ls:Lean.Parser.Tactic.simpLemma,* "]" : tactic =>
  `(tactic| simp [step, Frame.parse, Frame.getLengthCode, Frame.getMask, Frame.getOpcode, Frame.getFIN,
    Frame.getRSV1, Frame.getRSV2, Frame.getRSV3, Frame.shr8, Frame.shl8, Frame.be16, Frame.be64, Frame.toGoInt,
    headerCheck, dataFrame_eq, afterPayload, emitMessage, readControl, Utf8.checkEncoding, Spec.Utf8.valid_nil,
    Spec.Utf8.valid_cons, Spec.Utf8.isCont, Facts.dataFrameMaxOpcode, Facts.opText, Facts.opBinary, Facts.opContinuation, Facts.opPing,
    Facts.opPong, Facts.opClose, Facts.thresholdV1, Facts.closeUnsupportedData, Facts.closeInternalErr,
    Facts.closeProtocolError, Facts.closeMessageTooLarge, Close.emitClose, protoErr, tooLarge, ioErr, Writer.unmask_eq_spec,
    Spec.unmask, List.mapIdx_cons, Codec.decompress, Codec.flateTail, Facts.flateTail, dupCodec, Win.disabled,
    Win.write, $ls,*])

/-- evaluate `Spec.receive` on concrete bytes -/
macro "spec_eval" "[" ls:Lean.Parser.Tactic.simpLemma,* "]" : tactic =>
  `(tactic| simp [Spec.receive, Spec.receiveFuel, Spec.step, Spec.decodeHdr, Spec.beNat, Spec.hdrViolations,
    Spec.knownOpcode, Spec.isControl, Spec.finish, Spec.unmask, Spec.closeSeen, Spec.closeReplies, Spec.dictOf,
    Spec.inflateFailStatuses, Spec.Utf8.valid_nil, Spec.Utf8.valid_cons, Spec.Utf8.isCont, specCtx, List.mapIdx_cons, Codec.decompress,
    Codec.flateTail, Facts.flateTail, dupCodec, Win.disabled, $ls,*])

end Reader
