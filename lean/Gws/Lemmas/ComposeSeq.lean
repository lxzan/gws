import Gws.Lemmas.ComposeCall
/-!
# A sequence of write calls, read by the peer (helpers for Props/C01)

`sequence_delivered`: induction over the calls from `call_delivered`.  For the examples: `tagCodec`, a toy DEFLATE stand-in
whose output DEPENDS on the dictionary, with proofs of the two laws, and two admissible call sequences (`demoCalls` without
the extension, `zipCalls` with it).
-/

namespace Compose

theorem sequence_delivered (w : Writer.Cfg) (r : Reader.Cfg) (codec : Codec) (hc : Compatible w r)
    (hRT : w.pdEnabled = true → RoundTrip codec) (hMin : w.pdEnabled = true → MinOut codec)
    (calls : List Call)
    (hDF : ∀ c ∈ calls, w.pdEnabled = true → c.send.isBcast = true → DictFree codec) :
    ∀ (cst : Writer.Conn) (rst : Reader.State), cst.closed = false → rst.cont.initialized = false →
      InSync w cst.cps rst.dps → Admissible w r codec cst calls →
      (runCalls w codec cst calls).errs = [] ∧ (runCalls w codec cst calls).st.closed = false ∧
      ∃ rst' : Reader.State, rst'.cont.initialized = false ∧ InSync w (runCalls w codec cst calls).st.cps rst'.dps ∧
        ∀ rest, Runs r codec rst ((runCalls w codec cst calls).wire ++ rest) rst' (calls.map (·.send.event)) rest := by
  induction calls with
  | nil =>
    intro cst rst hopen hidle hs _
    exact ⟨rfl, hopen, rst, hidle, hs, fun rest => Runs.nil rst rest⟩
  | cons c cs ih =>
    intro cst rst hopen hidle hs hadm
    obtain ⟨hkeys, hok, hadm'⟩ := hadm
    obtain ⟨herr, hopen1, rst1, hidle1, hs1, hrun1⟩ :=
      call_delivered w r codec hc hRT hMin c (hDF c (by simp)) cst rst hopen hidle hs hkeys hok
    obtain ⟨herrs, hopen2, rst2, hidle2, hs2, hrun2⟩ :=
      ih (fun c' hc' => hDF c' (by simp [hc'])) (c.run w codec cst).st rst1 hopen1 hidle1 hs1 hadm'
    refine ⟨?_, hopen2, rst2, hidle2, hs2, fun rest => ?_⟩
    · simp only [runCalls, herr, herrs, Option.toList_none, List.append_nil]
    · have := Runs.trans (hrun1 ((runCalls w codec (c.run w codec cst).st cs).wire ++ rest)) (hrun2 rest)
      simpa [runCalls, List.append_assoc] using this

/-- without the extension nothing is compressed (`Writer.compress_of_willCompress`: `compress` is `pdEnabled` in the frame
configurations of `doWrite` and `Broadcast`), so the clauses of `Send.Ok` about compressed sizes are idle -/
theorem okPlain_ok (w : Writer.Cfg) (r : Reader.Cfg) (codec : Codec) (cps : Win) (hpd : w.pdEnabled = false)
    (s : Send) (h : s.OkPlain w r) : s.Ok w r codec cps := by
  cases s with
  | msg op p =>
    obtain ⟨h1, h2, h3, h4, h5⟩ := h
    refine ⟨h1, h2, h3, h4, h5, fun hz => ?_⟩
    cases hpd.symm.trans (Writer.compress_of_willCompress hz)
  | ping p => exact h
  | pong p => exact h
  | file op reads outs =>
    obtain ⟨h1, h2, h3, h4, h5⟩ := h
    refine ⟨h1, h2, h4, h5, ?_⟩
    simp only [hpd, Bool.false_eq_true, ↓reduceIte]
    exact h3
  | bcast op p bcfg bcps bkey =>
    obtain ⟨h1, h2, h3, h4, h5, h6, h7, h8⟩ := h
    refine ⟨h1, h2, h3, h4, h5, h6, h7, h8, fun hz => ?_⟩
    cases hpd.symm.trans (h3.symm.trans (Writer.compress_of_willCompress hz))

theorem okPlain_admissible (w : Writer.Cfg) (r : Reader.Cfg) (codec : Codec) (hpd : w.pdEnabled = false)
    (calls : List Call) (h : ∀ c ∈ calls, (∀ i, (c.keys i).length = 4) ∧ c.send.OkPlain w r) :
    ∀ cst : Writer.Conn, Admissible w r codec cst calls := by
  induction calls with
  | nil => intro _; trivial
  | cons c cs ih =>
    intro cst
    exact ⟨(h c (by simp)).1, okPlain_ok w r codec cst.cps hpd c.send (h c (by simp)).2,
      ih (fun c' hc' => h c' (by simp [hc'])) _⟩

/-- "compression" = a tag byte derived from the dictionary, the data, the sync-flush tail;
"inflation" checks the tag against ITS dictionary and drops the 9-byte tail `Decompress` appended.
It round-trips exactly when both ends use dictionaries of the same length (mod 256). -/
def tagCodec : Codec where
  compress _ dict chunks := UInt8.ofNat dict.length :: (chunks.flatten ++ [0x00, 0x00, 0xff, 0xff])
  inflate dict data :=
    match data with
    | t :: body => if t = UInt8.ofNat dict.length then some (body.take (body.length - 9)) else none
    | [] => none

theorem tagCodec_minOut : MinOut tagCodec := by
  intro bits dict chunks
  simp [tagCodec]

theorem tagCodec_roundTrip : RoundTrip tagCodec := by
  intro bits dict chunks limit hl
  have h1 : tagCodec.compress bits dict chunks =
      (UInt8.ofNat dict.length :: chunks.flatten) ++ [0x00, 0x00, 0xff, 0xff] := rfl
  rw [h1, Writer.stripTail_tail]
  have h9 : Codec.flateTail.length = 9 := by decide
  unfold Codec.decompress
  simp only [List.cons_append, tagCodec, ↓reduceIte, List.length_append, h9, Nat.add_sub_cancel, List.take_left']
  have : ¬ (chunks.flatten.length : Int) > limit := by omega
  simp only [this, ↓reduceIte]

def demoReader (isServer pd : Bool) : Reader.Cfg :=
  { isServer := isServer, pdEnabled := pd, readMax := 1000, checkUtf8 := true }

def demoKeys : Nat → Bytes := fun i => [UInt8.ofNat i, 2, 3, 4]

/-- a vectored Text message, a Ping, a streamed Binary message in three reads (one empty), a
broadcast, an empty Pong, an empty Binary message — sent by an endpoint of role `s` -/
def demoCalls (s : Bool) : List Call :=
  [⟨.msg 1 [[0x68], [0x69]], demoKeys⟩, ⟨.ping [7], demoKeys⟩,
   ⟨.file 2 [([1], false), ([], false), ([2, 3], true)] [], demoKeys⟩,
   ⟨.bcast 2 [9] (Writer.demoCfg s false) Win.disabled [0, 0, 0, 0], demoKeys⟩, ⟨.pong [], demoKeys⟩,
   ⟨.msg 2 [], demoKeys⟩]

theorem demoCalls_ok (s : Bool) : ∀ c ∈ demoCalls s,
    (∀ i, (c.keys i).length = 4) ∧ c.send.OkPlain (Writer.demoCfg s false) (demoReader (!s) false) := by
  simp [demoCalls, demoKeys, Send.OkPlain, isData, textOk, Writer.demoCfg, demoReader, Facts.opText, Facts.opBinary,
    Writer.readChunks, Spec.Utf8.valid]

/-- a server with permessage-deflate, context takeover (threshold 0), a window of 2^3 bytes -/
def zipW : Writer.Cfg :=
  { isServer := true, pdEnabled := true, threshold := 0, bits := 3, writeMax := 1000, checkUtf8 := true }

/-- two compressed messages around a Ping, then a compressed streamed message whose compressor
output (against the window the first two left) arrives in three `Write` calls -/
def zipCalls : List Call :=
  [⟨.msg 2 [[1, 2], [3]], demoKeys⟩, ⟨.ping [7], demoKeys⟩, ⟨.msg 2 [[0x68, 0x69]], demoKeys⟩,
   ⟨.file 2 [([4], false), ([5, 6], true)] [[5, 4], [5, 6, 0, 0], [0xff, 0xff]], demoKeys⟩]

theorem zipCalls_adm : Admissible zipW (demoReader false true) tagCodec { cps := Win.init 3 } zipCalls := by
  simp only [Admissible, zipCalls, Send.Ok, isData, textOk]
  refine ⟨fun _ => rfl, by decide, fun _ => rfl, by decide, fun _ => rfl, by decide, fun _ => rfl, by decide, trivial⟩

end Compose
