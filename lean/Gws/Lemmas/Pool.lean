import Gws.Model.Pool
/-! # `Pool.cap n ≥ n`: the buffer handed out by the pool is never shorter than the request -/
namespace Pool

theorem smear_stage (w : BitVec 32) (k : Nat) (h : w.toNat < 2 ^ 31) :
    w.toNat ≤ (w ||| (w >>> k)).toNat ∧ (w ||| (w >>> k)).toNat < 2 ^ 31 := by
  rw [BitVec.toNat_or, BitVec.toNat_ushiftRight]
  exact ⟨Nat.left_le_or, Nat.or_lt_two_pow h (Nat.lt_of_le_of_lt (Nat.shiftRight_le _ _) h)⟩

theorem binaryCeil_ge (v : BitVec 32) (h1 : 1 ≤ v.toNat) (h2 : v.toNat ≤ 2 ^ 31) :
    v.toNat ≤ (binaryCeil v).toNat := by
  unfold binaryCeil
  have h0 : (v - 1).toNat = v.toNat - 1 := by
    rw [BitVec.toNat_sub]
    have : v.toNat < 2 ^ 32 := v.isLt
    simp
    omega
  simp only
  have s1 := smear_stage (v - 1) 1 (by omega)
  have s2 := smear_stage _ 2 s1.2
  have s3 := smear_stage _ 4 s2.2
  have s4 := smear_stage _ 8 s3.2
  have s5 := smear_stage _ 16 s4.2
  rw [BitVec.toNat_add]
  have : (1 : BitVec 32).toNat = 1 := rfl
  rw [this, Nat.mod_eq_of_lt (by omega)]
  omega

/-- the capacity of the buffer `binaryPool.Get(n)` returns is at least `n` (so slicing it to
`[:n]` cannot go out of range) -/
theorem cap_ge (n : Nat) : n ≤ Pool.cap n := by
  unfold Pool.cap
  split
  · rename_i h
    simp only
    split
    · by_cases h0 : n = 0
      · omega
      · have hm : Facts.poolMax = 262144 := rfl   -- for `omega`: `n ≤ Facts.poolMax` is where `n ≤ 2 ^ 31` comes from
        have hn : (BitVec.ofNat 32 n).toNat = n := by
          simp; omega
        have := binaryCeil_ge (BitVec.ofNat 32 n) (by omega) (by omega)
        rw [hn] at this
        omega
    · exact Nat.le_refl _
  · exact Nat.le_refl _

end Pool
