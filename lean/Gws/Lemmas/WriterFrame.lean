import Gws.Lemmas.WriterHeader
import Gws.Lemmas.WriterMask
/-!
# One frame: what `genFrame` builds and how the RFC decoder reads it back

`genFrame` returns an error of one of its two gates, or `wireFrame` of `sentBody` (`genFrame_eq_wireFrame`);
`genFrame_gates` is the part of that which holds for any key and any library output (the bytes left open).  The round
trip of one frame through `Spec.decodeFrames` has its header from `genHeader_decodes_eq` and its payload from C18.
-/

namespace Writer

theorem backfill_eq (isServer : Bool) (header pad body key : Bytes) (hpad : pad.length = 14) (hh : header.length ≤ 14) :
    backfill isServer header (pad ++ body) key = header ++ (if isServer then body else Reader.unmask key body) := by
  obtain ⟨ht, hd⟩ := take_drop_left pad body 14 hpad
  unfold backfill
  simp only [Facts.frameHeaderSize, ht, hd]
  have hc : (if (!isServer) = true then pad ++ Reader.unmask key body else pad ++ body) =
      pad ++ (if isServer then body else Reader.unmask key body) := by cases isServer <;> rfl
  -- the header fits between offset `14 - header.length` and the end of the padding; what is cut off in front is padding
  have hm : 14 - header.length + header.length = 14 := by omega
  rw [hc, goCopy_fits _ _ _ (by rw [List.length_append]; omega), hm, List.append_assoc,
    List.drop_left' (by rw [List.length_take, List.length_append]; omega), (take_drop_left pad _ 14 hpad).2]

def wireFrame (isServer fin rsv1 : Bool) (opcode : Nat) (body key : Bytes) : Bytes :=
  Frame.genHeader isServer fin rsv1 opcode body.length key ++ (if isServer then body else Reader.unmask key body)

theorem wireFrame_decodes (isServer fin rsv1 : Bool) (opcode : Nat) (body key rest : Bytes)
    (hop : opcode < 16) (hn : body.length < 2 ^ 64) (hk : key.length = 4) :
    Spec.decodeFrames (wireFrame isServer fin rsv1 opcode body key ++ rest) =
      (Spec.decodeFrames rest).map (fun fs => (sentHdr isServer fin rsv1 opcode body.length key, body) :: fs) := by
  unfold wireFrame
  rw [List.append_assoc]
  have hd := genHeader_decodes_eq isServer fin rsv1 opcode body.length key
    ((if isServer then body else Reader.unmask key body) ++ rest) hop hn hk
  have hlen : (if isServer then body else Reader.unmask key body).length = body.length := by
    cases isServer <;> simp
  rw [Spec.decodeFrames_step hd (by simp [sentHdr, hlen])]
  have e1 : (sentHdr isServer fin rsv1 opcode body.length key).len = body.length := rfl
  rw [e1, ← hlen, List.drop_left, List.take_left]
  congr 2
  funext fs
  congr 2
  unfold Spec.framePayload sentHdr
  cases isServer
  · simp only [Bool.not_false, ↓reduceIte, Bool.false_eq_true]
    exact spec_unmask_masked key body hk
  · simp

theorem wireFrame_single (isServer fin rsv1 : Bool) (opcode : Nat) (body key : Bytes)
    (hop : opcode < 16) (hn : body.length < 2 ^ 63) (hk : key.length = 4) :
    Spec.decodeFrames (wireFrame isServer fin rsv1 opcode body key) =
      some [(sentHdr isServer fin rsv1 opcode body.length key, body)] ∧
    Spec.wellFormedSent (!isServer) (sentHdr isServer fin rsv1 opcode body.length key) := by
  have := wireFrame_decodes isServer fin rsv1 opcode body key [] hop (by omega) hk
  rw [List.append_nil, Spec.decodeFrames_nil] at this
  exact ⟨this, sentHdr_wf _ _ _ _ _ _ hn hk⟩

theorem buffersCheck_false (opcode : Nat) (ps : List Bytes) : Utf8.buffersCheck false opcode ps = true := by
  simp [Utf8.buffersCheck]

theorem padding_length : padding.length = 14 := by simp [padding, Facts.frameHeaderSize]

theorem stripTail_append (a h : Bytes) (hh : 4 ≤ h.length) : stripTail (a ++ h) = a ++ stripTail h := by
  unfold stripTail
  simp only [List.length_append]
  have hn : a.length + h.length - 4 = a.length + (h.length - 4) := by omega
  rw [hn, List.drop_length_add_append, List.take_length_add_append]
  by_cases hc : be32 (List.drop (h.length - 4) h) = 65535
  · rw [if_pos ⟨by omega, hc⟩, if_pos ⟨hh, hc⟩]
  · rw [if_neg (fun h' => hc h'.2), if_neg (fun h' => hc h'.2)]

theorem stripTail_length_le (b : Bytes) : (stripTail b).length ≤ b.length := by
  unfold stripTail; simp only; split <;> simp

theorem stripTail_tail (x : Bytes) : stripTail (x ++ [0x00, 0x00, 0xff, 0xff]) = x := by
  rw [stripTail_append x _ (by simp)]
  simp [stripTail, be32]

theorem be32_eq_65535 {d : Bytes} (h : be32 d = 65535) : d = [0x00, 0x00, 0xff, 0xff] := by
  unfold be32 at h
  split at h
  · rename_i x0 x1 x2 x3
    have h0 := x0.toNat_lt; have h1 := x1.toNat_lt; have h2 := x2.toNat_lt; have h3 := x3.toNat_lt
    obtain ⟨e0, e1, e2, e3⟩ : x0.toNat = 0 ∧ x1.toNat = 0 ∧ x2.toNat = 255 ∧ x3.toNat = 255 := by omega
    rw [(UInt8.toNat_inj (b := 0)).mp e0, (UInt8.toNat_inj (b := 0)).mp e1, (UInt8.toNat_inj (b := 0xff)).mp e2,
      (UInt8.toNat_inj (b := 0xff)).mp e3]
  · cases h

theorem stripTail_cases (b : Bytes) : stripTail b = b ∨ b = stripTail b ++ [0x00, 0x00, 0xff, 0xff] := by
  unfold stripTail
  simp only
  split
  · rename_i h
    right
    rw [← be32_eq_65535 h.2, List.take_append_drop]
  · left; rfl

theorem stripTail_length_ge (b : Bytes) : b.length ≤ (stripTail b).length + 4 := by
  rcases stripTail_cases b with h | h
  · rw [h]; omega
  · have := congrArg List.length h
    simp only [List.length_append, List.length_cons, List.length_nil] at this
    omega

/-- the payload of the frame `genFrame` builds -/
def sentBody (cfg : Cfg) (codec : Codec) (cps : Win) (opcode : Nat) (payload : List Bytes) (fc : FrameCfg) : Bytes :=
  if willCompress cfg fc opcode payload.flatten.length then
    stripTail (codec.compress cfg.bits (if fc.broadcast then [] else cps.dict) payload)
  else payload.flatten

theorem sentBody_plain {cfg : Cfg} {codec : Codec} {cps : Win} {opcode : Nat} {payload : List Bytes} {fc : FrameCfg}
    (h : willCompress cfg fc opcode payload.flatten.length = false) :
    sentBody cfg codec cps opcode payload fc = payload.flatten := by
  simp only [sentBody, h, Bool.false_eq_true, ↓reduceIte]

theorem sentBody_compressed {cfg : Cfg} {codec : Codec} {cps : Win} {opcode : Nat} {payload : List Bytes} {fc : FrameCfg}
    (h : willCompress cfg fc opcode payload.flatten.length = true) :
    sentBody cfg codec cps opcode payload fc =
      stripTail (codec.compress cfg.bits (if fc.broadcast then [] else cps.dict) payload) := by
  simp only [sentBody, h, ↓reduceIte]

theorem toU64_sub (body : Bytes) (h : body.length < 2 ^ 64) :
    toU64 (((padding ++ body).length : Int) - (Facts.frameHeaderSize : Int)) = body.length := by
  simp only [toU64, List.length_append, padding_length, Facts.frameHeaderSize]
  omega

theorem genFrame_gates (cfg : Cfg) (codec : Codec) (cps : Win) (opcode : Nat) (payload : List Bytes) (fc : FrameCfg)
    (key : Bytes) :
    ∃ wire, genFrame cfg codec cps opcode payload fc key =
      if opcode = Facts.opText ∧ Utf8.buffersCheck fc.checkEncoding opcode payload = false then .error .textEncoding
      else if payload.flatten.length > cfg.writeMax then .error .messageTooLarge
      else .ok wire := by
  unfold genFrame compressData
  simp only
  cases willCompress cfg fc opcode payload.flatten.length <;> exact ⟨_, rfl⟩

theorem genFrame_error {cfg : Cfg} {codec : Codec} {cps : Win} {opcode : Nat} {payload : List Bytes} {fc : FrameCfg}
    {key : Bytes} {e : WErr} (h : genFrame cfg codec cps opcode payload fc key = .error e) :
    e = .textEncoding ∨ e = .messageTooLarge := by
  obtain ⟨wire, hw⟩ := genFrame_gates cfg codec cps opcode payload fc key
  rw [hw] at h
  split at h
  · exact .inl (Except.error.inj h).symm
  · split at h
    · exact .inr (Except.error.inj h).symm
    · cases h

/-- `hout`: on the compression branch the library's output has at least four bytes (every sync-flushed DEFLATE stream ends
with `00 00 ff ff`; the strip looks at the whole buffer, padding included) and fewer than 2^64 (the header's length field is
`uint64(buf.Len() - 14)`, `toU64`) -/
theorem genFrame_eq_wireFrame (cfg : Cfg) (codec : Codec) (cps : Win) (opcode : Nat) (payload : List Bytes) (fc : FrameCfg)
    (key : Bytes) (hk : key.length = 4)
    (hout : willCompress cfg fc opcode payload.flatten.length = false ∨
      4 ≤ (codec.compress cfg.bits (if fc.broadcast then [] else cps.dict) payload).length ∧
      (codec.compress cfg.bits (if fc.broadcast then [] else cps.dict) payload).length < 2 ^ 64) :
    genFrame cfg codec cps opcode payload fc key =
      if opcode = Facts.opText ∧ Utf8.buffersCheck fc.checkEncoding opcode payload = false then .error .textEncoding
      else if payload.flatten.length > cfg.writeMax then .error .messageTooLarge
      else .ok (wireFrame cfg.isServer fc.fin (willCompress cfg fc opcode payload.flatten.length) opcode
        (sentBody cfg codec cps opcode payload fc) key) := by
  unfold genFrame sentBody
  simp only
  cases hz : willCompress cfg fc opcode payload.flatten.length
  · simp only [Bool.false_eq_true, ↓reduceIte]
    rw [backfill_eq _ _ _ _ _ padding_length (genHeader_length _ _ _ _ _ _ hk).1]
    rfl
  · obtain ⟨h4, hlt⟩ : 4 ≤ _ ∧ _ := hout.resolve_left (by rw [hz]; exact fun h => Bool.noConfusion h)
    simp only [↓reduceIte, compressData]
    rw [stripTail_append _ _ h4]
    have hl := stripTail_length_le (codec.compress cfg.bits (if fc.broadcast then [] else cps.dict) payload)
    rw [toU64_sub _ (by omega), backfill_eq _ _ _ _ _ padding_length (genHeader_length _ _ _ _ _ _ hk).1]
    rfl

theorem genFrame_pass {cfg : Cfg} {codec : Codec} {cps : Win} {opcode : Nat} {payload : List Bytes} {fc : FrameCfg} {key : Bytes}
    (hk : key.length = 4)
    (henc : ¬ (opcode = Facts.opText ∧ Utf8.buffersCheck fc.checkEncoding opcode payload = false))
    (hmax : payload.flatten.length ≤ cfg.writeMax)
    (hout : willCompress cfg fc opcode payload.flatten.length = false ∨
      4 ≤ (codec.compress cfg.bits (if fc.broadcast then [] else cps.dict) payload).length ∧
      (codec.compress cfg.bits (if fc.broadcast then [] else cps.dict) payload).length < 2 ^ 64) :
    genFrame cfg codec cps opcode payload fc key =
      .ok (wireFrame cfg.isServer fc.fin (willCompress cfg fc opcode payload.flatten.length) opcode
        (sentBody cfg codec cps opcode payload fc) key) := by
  rw [genFrame_eq_wireFrame cfg codec cps opcode payload fc key hk hout, if_neg henc, if_neg (Nat.not_lt.mpr hmax)]

theorem genFrame_ok {cfg : Cfg} {codec : Codec} {cps : Win} {opcode : Nat} {payload : List Bytes} {fc : FrameCfg}
    {key wire : Bytes} (hk : key.length = 4)
    (hout : willCompress cfg fc opcode payload.flatten.length = false ∨
      4 ≤ (codec.compress cfg.bits (if fc.broadcast then [] else cps.dict) payload).length ∧
      (codec.compress cfg.bits (if fc.broadcast then [] else cps.dict) payload).length < 2 ^ 64)
    (h : genFrame cfg codec cps opcode payload fc key = .ok wire) :
    payload.flatten.length ≤ cfg.writeMax ∧
    wire = wireFrame cfg.isServer fc.fin (willCompress cfg fc opcode payload.flatten.length) opcode
      (sentBody cfg codec cps opcode payload fc) key := by
  rw [genFrame_eq_wireFrame cfg codec cps opcode payload fc key hk hout] at h
  split at h
  · cases h
  · split at h
    · cases h
    · exact ⟨by omega, (Except.ok.inj h).symm⟩

theorem compress_of_willCompress {cfg : Cfg} {fc : FrameCfg} {opcode n : Nat}
    (h : willCompress cfg fc opcode n = true) : fc.compress = true := by
  unfold willCompress at h
  simp only [Bool.and_eq_true] at h
  exact h.1.1

theorem willCompress_control (cfg : Cfg) (fc : FrameCfg) (opcode n : Nat) (h : 8 ≤ opcode) :
    willCompress cfg fc opcode n = false := by
  have : ¬ opcode ≤ Facts.dataFrameMaxOpcode := by simp [Facts.dataFrameMaxOpcode]; omega
  simp [willCompress, this]

end Writer
