import Gws.Model.ReaderStep
/-! # The read loop: termination of `step` iteration and the loop itself
What the termination proof needs is proved here, so that the model (and the driver built from it) rests on no lemma module:
how much input `Frame.parse` and the frame handlers consume and what they leave. -/

namespace Reader

/-- the last part of `Frame.parse`, the same behind each of the three length encodings; `Frame.parse` is not written with it -/
def parseKey (b0 b1 : Nat) (len : Int) (r1 : Bytes) : Frame.ParseRes :=
  if Frame.getMask b1 = true then
    match r1 with
    | k0 :: k1 :: k2 :: k3 :: r2 => .ok { b0 := b0, b1 := b1, len := len, key := [k0, k1, k2, k3] } r2
    | _ => .needMore
  else .ok { b0 := b0, b1 := b1, len := len, key := [] } r1

theorem parseKey_ok {b0 b1 : Nat} {len : Int} {r1 : Bytes} (b₂ : Bytes) {h : Frame.Hdr} {rest : Bytes}
    (hp : parseKey b0 b1 len r1 = .ok h rest) :
    parseKey b0 b1 len (r1 ++ b₂) = .ok h (rest ++ b₂) ∧ rest.length ≤ r1.length := by
  unfold parseKey at hp ⊢
  split at hp
  · rename_i hm
    rw [if_pos hm]
    split at hp
    · cases hp
      exact ⟨rfl, by simp only [List.length_cons]; omega⟩
    · cases hp
  · rename_i hm
    rw [if_neg hm]
    cases hp
    exact ⟨rfl, Nat.le_refl _⟩

theorem parse_ok_facts {b₁ : Bytes} {h : Frame.Hdr} {rest : Bytes} (b₂ : Bytes)
    (hp : Frame.parse b₁ = .ok h rest) :
    Frame.parse (b₁ ++ b₂) = .ok h (rest ++ b₂) ∧ rest.length + 2 ≤ b₁.length := by
  match b₁ with
  | [] | [_] => simp [Frame.parse] at hp
  | x0 :: x1 :: r =>
    simp only [Frame.parse, List.cons_append] at hp ⊢
    by_cases h126 : Frame.getLengthCode x1.toNat = 126
    · simp only [h126, if_true] at hp ⊢
      match r with
      | [] | [_] => simp at hp
      | a :: b :: r' =>
        simp only [List.cons_append] at hp ⊢
        -- `hp` and the goal are now `parseKey` on `r'` and on `r' ++ b₂`, unfolded: `parseKey_ok` fits by unfolding
        obtain ⟨h1, h2⟩ := parseKey_ok b₂ hp
        exact ⟨h1, by simp only [List.length_cons]; omega⟩
    · simp only [h126, if_false] at hp ⊢
      by_cases h127 : Frame.getLengthCode x1.toNat = 127
      · simp only [h127, if_true] at hp ⊢
        match r with
        | [] | [_] | [_, _] | [_, _, _] | [_, _, _, _] | [_, _, _, _, _] | [_, _, _, _, _, _] | [_, _, _, _, _, _, _] =>
          simp at hp
        | a :: b :: c :: d :: e :: f :: g :: i :: r' =>
          simp only [List.cons_append] at hp ⊢
          obtain ⟨h1, h2⟩ := parseKey_ok b₂ hp
          exact ⟨h1, by simp only [List.length_cons]; omega⟩
      · simp only [h127, if_false] at hp ⊢
        obtain ⟨h1, h2⟩ := parseKey_ok b₂ hp
        exact ⟨h1, by simp only [List.length_cons]; omega⟩

theorem parse_append {b₁ : Bytes} {h : Frame.Hdr} {rest : Bytes} (b₂ : Bytes)
    (hp : Frame.parse b₁ = .ok h rest) : Frame.parse (b₁ ++ b₂) = .ok h (rest ++ b₂) :=
  (parse_ok_facts b₂ hp).1

theorem parse_decreases {b : Bytes} {h : Frame.Hdr} {rest : Bytes} (hp : Frame.parse b = .ok h rest) :
    rest.length + 2 ≤ b.length :=
  (parse_ok_facts [] hp).2

theorem step_of_parse {cfg : Cfg} {codec : Codec} {st : State} {b : Bytes} {h : Frame.Hdr} {rest : Bytes}
    (hp : Frame.parse b = .ok h rest) :
    step cfg codec st b =
      match headerCheck cfg h with
      | some e => .stop [] e
      | none =>
        if Frame.getOpcode h.b0 > Facts.dataFrameMaxOpcode then readControl cfg st h rest
        else dataFrame cfg codec st h rest := by
  simp only [step, hp]
  cases headerCheck cfg h <;> rfl

theorem readControl_decreases {cfg : Cfg} {st st' : State} {h : Frame.Hdr} {rest rest' : Bytes} {evs : List Ev}
    (hs : readControl cfg st h rest = .ok st' evs rest') : rest'.length ≤ rest.length := by
  revert hs
  fun_cases readControl cfg st h rest
  -- `caseN` is the N-th leaf of the `if` tree of the model function, from the top (the numbers shift when a branch is added
  -- there).  Ping and Pong are the continuing branches; both leave `rest.drop n`
  case case4 | case5 =>
    intro hs
    rw [← (Step.ok.inj hs).2.2]
    show (List.drop _ rest).length ≤ _
    rw [List.length_drop]
    omega
  all_goals exact nofun

theorem afterPayload_rest {cfg : Cfg} {codec : Codec} {st st' : State} {h : Frame.Hdr} {p rest rest' : Bytes} {evs : List Ev}
    (hs : afterPayload cfg codec st h p rest = .ok st' evs rest') : rest' = rest := by
  revert hs
  fun_cases afterPayload cfg codec st h p rest <;> intro hs <;> cases hs <;> rfl

theorem dataFrame_decreases {cfg : Cfg} {codec : Codec} {st st' : State} {h : Frame.Hdr} {rest rest' : Bytes} {evs : List Ev}
    (hs : dataFrame cfg codec st h rest = .ok st' evs rest') : rest'.length ≤ rest.length := by
  revert hs
  fun_cases dataFrame cfg codec st h rest
  · exact nofun
  · exact nofun
  · intro hs
    rw [afterPayload_rest hs, List.length_drop]
    omega

theorem step_decreases {cfg : Cfg} {codec : Codec} {st st' : State} {b rest : Bytes} {evs : List Ev}
    (hs : step cfg codec st b = .ok st' evs rest) : rest.length + 2 ≤ b.length := by
  cases hp : Frame.parse b with
  | needMore => simp [step, hp] at hs
  | ok h r =>
    have hd := parse_decreases hp
    rw [step_of_parse hp] at hs
    split at hs
    · cases hs
    · split at hs
      · have := readControl_decreases hs; omega
      · have := dataFrame_decreases hs; omega

structure Trace where
  evs : List Ev
  ending : End
deriving Repr

/-- `ReadLoop`'s `for { readMessage }` on the whole input; Lean accepting this definition is the
proof that the modelled loop terminates on every input (each iteration consumes ≥ 2 bytes or stops). -/
def readLoop (cfg : Cfg) (codec : Codec) (st : State) (b : Bytes) : Trace :=
  match h : step cfg codec st b with
  | .stop evs e => { evs, ending := e }
  | .ok st' evs rest =>
    let t := readLoop cfg codec st' rest
    { evs := evs ++ t.evs, ending := t.ending }
termination_by b.length
decreasing_by have := step_decreases h; omega

/-- status in the Close frame gws sends when the loop ends (`none` = empty body) -/
def End.replyStatus : End → Option Nat
  | .err e => some e.sendCode
  | .peerClose pc => if pc.response = 0 then none else some pc.response
  | .panic _ => none

end Reader
