import Gws.Basic
/-!
# SHA-1 (FIPS 180-4, sections 5.1.1, 5.3.1, 6.1) as a plain function on byte lists

Words are natural numbers below `2^32`; every operation reduces with the kernel's arithmetic on
literals, so the test vectors below are checked by kernel evaluation.  Nothing here refers to gws: this is
the reference the accept-key computation is stated against (C10, C11).
-/

namespace Sha1

/-- bytes of an ASCII literal (every use in the specs and models is on a literal with code points
below 128, where this is the UTF-8 encoding) -/
def asc (s : String) : Bytes := s.toList.map (fun c => UInt8.ofNat c.toNat)

def two32 : Nat := 4294967296

def add32 (a b : Nat) : Nat := (a + b) % two32

/-- rotate a 32-bit word left by `n` (`0 < n < 32`) -/
def rotl (n x : Nat) : Nat := ((x <<< n) % two32) ||| (x >>> (32 - n))

def not32 (x : Nat) : Nat := x ^^^ 4294967295

/-- big-endian bytes of `x`, `n` of them -/
def beBytes : Nat → Nat → Bytes
  | 0, _ => []
  | n + 1, x => UInt8.ofNat ((x >>> (8 * n)) % 256) :: beBytes n x

/-- 5.1.1: append the bit 1, `k` zero bits up to 448 mod 512, and the 64-bit message length in bits -/
def pad (msg : Bytes) : Bytes :=
  let l := msg.length
  msg ++ [0x80] ++ List.replicate ((64 - (l + 9) % 64) % 64) 0 ++ beBytes 8 (8 * l)

/-- big-endian 32-bit words of a byte list whose length is a multiple of 4 (a shorter tail is dropped) -/
def words : Nat → Bytes → List Nat
  | 0, _ => []
  | n + 1, b0 :: b1 :: b2 :: b3 :: r =>
    (b0.toNat * 16777216 + b1.toNat * 65536 + b2.toNat * 256 + b3.toNat) :: words n r
  | _ + 1, _ => []

/-- 6.1.2 step 1: the message schedule, kept newest-first: `r = [W(t-1), W(t-2), …]` -/
def extend : Nat → List Nat → List Nat
  | 0, r => r
  | n + 1, r =>
    extend n (rotl 1 (r.getD 2 0 ^^^ r.getD 7 0 ^^^ r.getD 13 0 ^^^ r.getD 15 0) :: r)

def schedule (block : List Nat) : List Nat := (extend 64 block.reverse).reverse

structure St where
  a : Nat
  b : Nat
  c : Nat
  d : Nat
  e : Nat
deriving DecidableEq, Repr

/-- 5.3.1 -/
def init : St := ⟨0x67452301, 0xefcdab89, 0x98badcfe, 0x10325476, 0xc3d2e1f0⟩

/-- 4.1.1 -/
def f (t b c d : Nat) : Nat :=
  if t < 20 then (b &&& c) ||| (not32 b &&& d)
  else if t < 40 then b ^^^ c ^^^ d
  else if t < 60 then (b &&& c) ||| (b &&& d) ||| (c &&& d)
  else b ^^^ c ^^^ d

/-- 4.2.1 -/
def k (t : Nat) : Nat :=
  if t < 20 then 0x5a827999 else if t < 40 then 0x6ed9eba1 else if t < 60 then 0x8f1bbcdc else 0xca62c1d6

/-- 6.1.2 step 3, one round -/
def round (s : St) (t w : Nat) : St :=
  let temp := add32 (add32 (add32 (add32 (rotl 5 s.a) (f t s.b s.c s.d)) s.e) (k t)) w
  ⟨temp, s.a, rotl 30 s.b, s.c, s.d⟩

def rounds : St → Nat → List Nat → St
  | s, _, [] => s
  | s, t, w :: ws => rounds (round s t w) (t + 1) ws

/-- 6.1.2 steps 1-4 for one 16-word block -/
def block (h : St) (m : List Nat) : St :=
  let s := rounds h 0 (schedule m)
  ⟨add32 h.a s.a, add32 h.b s.b, add32 h.c s.c, add32 h.d s.d, add32 h.e s.e⟩

def blocks : Nat → St → List Nat → St
  | 0, h, _ => h
  | n + 1, h, ws => blocks n (block h (ws.take 16)) (ws.drop 16)

/-- the 20-byte digest -/
def sha1 (msg : Bytes) : Bytes :=
  let p := pad msg
  let h := blocks (p.length / 64) init (words (p.length / 4) p)
  beBytes 4 h.a ++ beBytes 4 h.b ++ beBytes 4 h.c ++ beBytes 4 h.d ++ beBytes 4 h.e

def hexDigit (n : Nat) : Char := if n < 10 then Char.ofNat (48 + n) else Char.ofNat (87 + n)

def hex (b : Bytes) : List Char := b.flatMap (fun x => [hexDigit (x.toNat / 16), hexDigit (x.toNat % 16)])

theorem beBytes_length (n x : Nat) : (beBytes n x).length = n := by
  induction n with
  | zero => rfl
  | succ n ih => rw [beBytes, List.length_cons, ih]

theorem sha1_length (msg : Bytes) : (sha1 msg).length = 20 := by
  simp only [sha1, List.length_append, beBytes_length]

-- RFC 3174 section 7.3 test vectors 1, 2 and 4 (TEST3 is one million bytes), and the empty message.
-- `String.toList_ofList`: the kernel decodes `"…".toList` slowly (see `nego_literals`, Lemmas/Nego).
example : hex (sha1 (asc "abc")) = "a9993e364706816aba3e25717850c26c9cd0d89d".toList := by
  rw [String.toList_ofList, asc, String.toList_ofList]; decide +kernel
example : hex (sha1 (asc "abcdbcdecdefdefgefghfghighijhijkijkljklmklmnlmnomnopnopq"))
    = "84983e441c3bd26ebaae4aa1f95129e5e54670f1".toList := by
  rw [String.toList_ofList, asc, String.toList_ofList]; decide +kernel
example : hex (sha1 ((List.replicate 10 (asc "0123456701234567012345670123456701234567012345670123456701234567")).flatten))
    = "dea356a2cddd90c7a7ecedc5ebb563934f460452".toList := by
  rw [String.toList_ofList, asc, String.toList_ofList]; decide +kernel
example : hex (sha1 []) = "da39a3ee5e6b4b0d3255bfef95601890afd80709".toList := by
  rw [String.toList_ofList]; decide +kernel
-- padding boundaries: 55 bytes fit one block, 56 need a second one
example : (pad (List.replicate 55 0)).length = 64 ∧ (pad (List.replicate 56 0)).length = 128
    ∧ (pad (List.replicate 64 0)).length = 128 := by decide +kernel

end Sha1
