import Gws.Props.TransFrame
import Gws.Props.TransReader
import Gws.Props.TransClose
import Gws.Props.TransWindow
import Gws.Props.TransNego
import Gws.Props.TransWriter
import Gws.Props.TransLimited
import Gws.Props.TransEmit
import Gws.Props.TransFragment
import Gws.Props.C05
import Gws.Props.C01
import Gws.Props.TransStep
import Gws.Props.C06
import Gws.Props.C16
import Gws.Props.C17
/-!
# Property clauses stated directly of the translated source

The property theorems (`Gws/Props/Cxx.lean`) are about the hand-written model; the equivalence theorems
(`Gws/Props/Trans*.lean`) tie the model to the Go source as `tools/gotrans` translates it on every run.  Here the two
are composed: clauses of C01, C03/C13, C05, C06, C12, C16 and C17 are stated of the *translated Go functions themselves*.
The statements for C03/C13, C12, C16, C17 and the reply table of C06 mention no model function, only the RFC-level specs.
Of the model, `local_close_body` borrows `Close.statusBytes`, `genFrame_decodes` and the two end-to-end theorems
`Writer.Cfg`, `Writer.willCompress` and the interpreter `interpW`, the end-to-end theorems also the reader's state (with
`Win.write`), `readMessageT`, and the compressed one `Writer.stripTail` and the codec laws `Compose.RoundTrip`, `MinOut`.
Of the imports, `TransNego`, `TransLimited`, `TransEmit`, `TransFragment` and `C16` are not used below: the checks of most
properties build this module (`tools/registry.py`), and through these imports they rebuild those tie modules as well.
-/
namespace TransProps

open TransEquiv

/-! ## C17: after a write the window is the suffix of what was written -/

theorem window_is_suffix (dict p : Bytes) (size : Nat) (h : dict.length ≤ size) :
    (Trans.slideWindow_Write p (c_enabled := true) (c_dict := dict) (c_size := (size : Int))).1 = lastN size (dict ++ p) := by
  have := slideWindow_Write_eq { enabled := true, size := size, dict := dict } p
  simp only at this
  rw [this]
  exact Win.write_spec { enabled := true, size := size, dict := dict } p rfl h

theorem disabled_window_stays_empty (p : Bytes) (size : Int) :
    (Trans.slideWindow_Write p (c_enabled := false) (c_dict := []) (c_size := size)).1 = [] := by
  simp [Trans.slideWindow_Write]

/-! ## C06: the reply to a received Close frame, and the body of a locally requested close -/

/-- the reply table of the property text, for a Close body with a status and a reason that is valid (or unchecked) -/
theorem close_reply_table (utf8 : Bool) (a b : UInt8) (reason : Bytes)
    (hr : utf8 = false ∨ Spec.Utf8.valid reason = true) :
    ∃ reported, Trans.Conn_emitClose_body utf8 (a :: b :: reason) =
      .ok (reason,
        UInt16.ofNat (let code := a.toNat * 256 + b.toNat
          if code < 1000 ∨ (1004 ≤ code ∧ code ≤ 1006) ∨ code = 1015 ∨ (1016 ≤ code ∧ code ≤ 2999) ∨ code ≥ 5000 then 1002
          else if 3000 ≤ code ∧ code ≤ 4999 then code else 1000),
        reported) ∧ reported.toNat = a.toNat * 256 + b.toNat := by
  rw [emitClose_body_eq]
  have ht := Close.closeReply_table utf8 a b reason hr
  simp only at ht
  refine ⟨UInt16.ofNat (Close.emitClose utf8 (a :: b :: reason)).realCode, ?_, ?_⟩
  · rw [ht]; simp [Close.emitClose]
  · have := a.toNat_lt; have := b.toNat_lt
    simp [Close.emitClose, Frame.be16]; omega

/-- an empty Close body is answered with an empty body, a one-byte body with 1002 -/
theorem close_reply_short (utf8 : Bool) (x : UInt8) :
    Trans.Conn_emitClose_body utf8 [] = .ok ([], 0, 0) ∧ Trans.Conn_emitClose_body utf8 [x] = .ok ([], 1002, x.toUInt16) := by
  constructor
  · rw [emitClose_body_eq]; rfl
  · rw [emitClose_body_eq]; simp [Close.emitClose, Facts.closeProtocolError]

/-- a locally requested close carries the caller's status (at least 1000) and the reason cut to 123 bytes -/
theorem local_close_body (code : UInt16) (reason : Bytes) :
    (Trans.Conn_WriteClose_body code reason >>= fun r => Trans.Conn_writeClose_cut r.2)
      = .ok (Close.statusBytes (max 1000 code.toNat) ++ reason.take 123) := by
  rw [local_close_body_eq, Close.local_close_frame]

/-! ## C03 / C13: the header checks, the fragmentation rules, the size limit -/

/-- a frame above the read limit (or with the top bit of a 64-bit length set) is failed with 1009 before anything else -/
theorem oversize_frame_1009 (readMax len : Int) (fh : List UInt8) (pd sv : Bool) (rc : Option GoErr)
    (h : len < 0 ∨ len > readMax) :
    Trans.Conn_readMessage_header (c_config_ReadMaxPayloadSize := readMax) (c_fh := fh) (c_pd_Enabled := pd) (c_isServer := sv)
        (contentLength := len) (readControlResult := rc) = .error (some (.status 1009)) := by
  rw [readMessage_header_cases, if_pos h]

/-- within the limit, a reserved bit without negotiated meaning or a mask bit wrong for the role is failed with 1002 -/
theorem header_violation_1002 (readMax len : Int) (fh : List UInt8) (pd sv : Bool) (rc : Option GoErr)
    (hl : ¬ (len < 0 ∨ len > readMax))
    (hv : Trans.frameHeader_GetRSV2 fh = true ∨ Trans.frameHeader_GetRSV3 fh = true
      ∨ (Trans.frameHeader_GetRSV1 fh = true ∧
          ¬ (pd = true ∧ (Trans.frameHeader_GetOpcode fh = 1 ∨ Trans.frameHeader_GetOpcode fh = 2)))
      ∨ Trans.frameHeader_GetMask fh ≠ sv) :
    Trans.Conn_readMessage_header (c_config_ReadMaxPayloadSize := readMax) (c_fh := fh) (c_pd_Enabled := pd) (c_isServer := sv)
        (contentLength := len) (readControlResult := rc) = .error (some (.status 1002)) := by
  rw [readMessage_header_cases, if_neg hl]
  split
  · rfl
  · rename_i hr
    have hm : Trans.frameHeader_GetMask fh ≠ sv := by
      rcases hv with h | h | h | h
      · exact (hr (.inl h)).elim
      · exact (hr (.inr (.inl h))).elim
      · exact (hr (.inr (.inr h))).elim
      · exact h
    rw [if_pos hm]

/-- the bits the getters extract are the RFC 6455 header fields -/
theorem header_fields (b0 b1 : UInt8) (rest : List UInt8) :
    Trans.frameHeader_GetFIN (b0 :: b1 :: rest) = (b0.toNat / 128 == 1) ∧
    Trans.frameHeader_GetOpcode (b0 :: b1 :: rest) = b0 % 16 ∧
    Trans.frameHeader_GetMask (b0 :: b1 :: rest) = (b1.toNat / 128 == 1) ∧
    Trans.frameHeader_GetLengthCode (b0 :: b1 :: rest) = b1 % 128 := by
  -- the model's getters (`GetFIN_eq` …) say the same in shifts; in `/` and `%` they read as the RFC's fields
  refine ⟨(GetFIN_eq _).trans rfl, UInt8.toNat_inj.mp ?_, (GetMask_eq _).trans rfl, UInt8.toNat_inj.mp ?_⟩
  · rw [GetOpcode_eq, UInt8.toNat_mod]
    exact Reader.getOpcode_eq _
  · rw [GetLengthCode_eq, UInt8.toNat_mod]
    exact Reader.getLengthCode_eq _

/-- a fragmented control frame, or one whose length code is above 125, is failed with 1002 -/
theorem control_frame_violation_1002 (fh : List UInt8)
    (hv : Trans.frameHeader_GetFIN fh = false ∨ Trans.frameHeader_GetLengthCode fh > 125) :
    Trans.Conn_readControl_guards fh = .error (some (.status 1002)) := by
  unfold Trans.Conn_readControl_guards
  rcases hv with h | h
  · simp [h]
  · cases hf : Trans.frameHeader_GetFIN fh <;> simp [h]

/-- the fragmentation rules, of the translated state machine itself: a new data frame inside an unfinished message, and a
continuation with no message in progress, are failed with 1002 (whatever `emitMessage` would do: it is never reached) -/
theorem fragmentation_violation_1002 {R : Type} (ret : Option GoErr → R) (emit : UInt8 → Bytes → Bool → R)
    (ini comp : Bool) (cop : UInt8) (cbuf : Bytes) (readMax : Int) (opcode : UInt8) (fin : Bool) (p buf : Bytes) (compressed : Bool)
    (hv : (opcode ≠ 0 ∧ ini = true) ∨ (opcode = 0 ∧ ini = false)) :
    ∃ b c i o, Trans.Conn_readMessage_afterPayload ret emit (c_continuationFrame_initialized := ini) (c_continuationFrame_compressed := comp)
        (c_continuationFrame_opcode := cop) (c_continuationFrame_buffer := cbuf) (c_config_ReadMaxPayloadSize := readMax)
        (opcode := opcode) (fin := fin) (p := p) (buf := buf) (compressed := compressed)
      = .error (b, c, i, o, ret (some (.status 1002))) := by
  unfold Trans.Conn_readMessage_afterPayload
  rcases hv with ⟨h1, h2⟩ | ⟨h1, h2⟩
  · have : (opcode != (0 : UInt8)) = true := by simpa using h1
    refine ⟨cbuf, comp, true, cop, ?_⟩; simp [this, h2]
  · subst h1; subst h2
    cases fin <;> (refine ⟨cbuf, comp, false, cop, ?_⟩; simp)

/-- C13: a fragment that takes the reassembled size above the limit is failed with 1009, at that fragment -/
theorem oversize_fragments_1009 {R : Type} (ret : Option GoErr → R) (emit : UInt8 → Bytes → Bool → R)
    (comp : Bool) (cop : UInt8) (cbuf : Bytes) (readMax : Int) (fin : Bool) (p buf : Bytes) (compressed : Bool)
    (hv : ((cbuf.length + p.length : Nat) : Int) > readMax) :
    ∃ b c i o, Trans.Conn_readMessage_afterPayload ret emit (c_continuationFrame_initialized := true) (c_continuationFrame_compressed := comp)
        (c_continuationFrame_opcode := cop) (c_continuationFrame_buffer := cbuf) (c_config_ReadMaxPayloadSize := readMax)
        (opcode := 0) (fin := fin) (p := p) (buf := buf) (compressed := compressed)
      = .error (b, c, i, o, ret (some (.status 1009))) := by
  unfold Trans.Conn_readMessage_afterPayload
  have hv' : ¬ ((cbuf.length : Int) + (p.length : Int) ≤ readMax) := by omega
  cases fin <;> (refine ⟨cbuf ++ p, comp, true, cop, ?_⟩; simp [hv'])

/-- C13: a compressed message whose inflation fails, with whatever error value (too large, or the library's), is failed with
1011, whatever its opcode and the gate setting -/
theorem inflate_failure_1011 {R : Type} (ret : Option GoErr → R) (go seq : Bool → UInt8 → Bytes → R)
    (data dict out : Bytes) (en par utf8 : Bool) (size : Int) (op : UInt8) (e : GoErr) :
    (Trans.Conn_emitMessage ret go seq (msg_compressed := true) (msg_Data := data) (c_dpsWindow_enabled := en) (c_dpsWindow_dict := dict)
        (c_dpsWindow_size := size) (c_config_CheckUtf8Enabled := utf8) (msg_Opcode := op) (c_config_ParallelEnabled := par)
        (inflated := (out, some e))).2.2 = ret (some (.coded 1011)) := by
  simp [Trans.Conn_emitMessage]

/-! ## C16: the gate is RFC 3629 validity of the whole payload, for text and close reasons only -/

theorem gate_text (p : Bytes) : Trans.internal_CheckEncoding true 1 p = Spec.Utf8.valid p := by
  simp [Trans.internal_CheckEncoding, goUtf8Valid]

theorem gate_binary_never (enabled : Bool) (p : Bytes) : Trans.internal_CheckEncoding enabled 2 p = true := by
  simp [Trans.internal_CheckEncoding]

theorem gate_off_never (opcode : UInt8) (p : Bytes) : Trans.internal_CheckEncoding false opcode p = true := by
  simp [Trans.internal_CheckEncoding]

/-- C16: an uncompressed text message that is not valid UTF-8 is failed with 1007 and not dispatched -/
theorem invalid_text_1007 {R : Type} (ret : Option GoErr → R) (go seq : Bool → UInt8 → Bytes → R)
    (data dict : Bytes) (en par : Bool) (size : Int) (hbad : Spec.Utf8.valid data = false) :
    (Trans.Conn_emitMessage ret go seq (msg_compressed := false) (msg_Data := data) (c_dpsWindow_enabled := en) (c_dpsWindow_dict := dict)
        (c_dpsWindow_size := size) (c_config_CheckUtf8Enabled := true) (msg_Opcode := 1) (c_config_ParallelEnabled := par)
        (inflated := ([], none))).2.2 = ret (some (.coded 1007)) := by
  simp [Trans.Conn_emitMessage, Trans.internal_CheckEncoding, Trans.Message_Bytes, goUtf8Valid, hbad]

/-! ## C12: after initialisation the window bits of an enabled configuration lie in 8..15 -/

theorem server_bits_in_range (sb cb thr lvl ps pow2 : Int) (st ct : Bool) :
    ∃ cb' lvl' ps' sb' thr', Trans.initServerOption_pd (c_PermessageDeflate_Enabled := true) (c_PermessageDeflate_ServerMaxWindowBits := sb)
        (c_PermessageDeflate_ClientMaxWindowBits := cb) (c_PermessageDeflate_Threshold := thr) (c_PermessageDeflate_Level := lvl)
        (c_PermessageDeflate_PoolSize := ps) (c_PermessageDeflate_ServerContextTakeover := st)
        (c_PermessageDeflate_ClientContextTakeover := ct) (poolSizePow2 := pow2) = .ok (cb', lvl', ps', sb', thr')
      ∧ 8 ≤ sb' ∧ sb' ≤ 15 ∧ 8 ≤ cb' ∧ cb' ≤ 15 ∧ 0 < thr' := by
  unfold Trans.initServerOption_pd
  refine ⟨_, _, _, _, _, rfl, ?_, ?_, ?_, ?_, ?_⟩ <;> simp only [Bool.or_eq_true, decide_eq_true_eq] <;>
    (repeat' split) <;> omega

theorem client_bits_in_range (sb cb thr lvl ps : Int) :
    ∃ cb' lvl' ps' sb' thr', Trans.initClientOption_pd (c_PermessageDeflate_Enabled := true) (c_PermessageDeflate_ServerMaxWindowBits := sb)
        (c_PermessageDeflate_ClientMaxWindowBits := cb) (c_PermessageDeflate_Threshold := thr) (c_PermessageDeflate_Level := lvl)
        (c_PermessageDeflate_PoolSize := ps) = .ok (cb', lvl', ps', sb', thr')
      ∧ 8 ≤ sb' ∧ sb' ≤ 15 ∧ 8 ≤ cb' ∧ cb' ≤ 15 ∧ 0 < thr' := by
  unfold Trans.initClientOption_pd
  refine ⟨_, _, _, _, _, rfl, ?_, ?_, ?_, ?_, ?_⟩ <;> simp only [Bool.or_eq_true, decide_eq_true_eq] <;>
    (repeat' split) <;> omega

/-! ## C05: an uncompressed frame built by `genFrame` parses with the independent RFC 6455 decoder -/

theorem genFrame_decodes (cfg : Writer.Cfg) (codec : Codec) (cps : Win) (opcode : UInt8) (payload : List Bytes)
    (fc : Writer.FrameCfg) (maskNum : UInt32) (wire : Bytes) (hop : opcode.toNat < 16) (hmax : cfg.writeMax < 2 ^ 62)
    (hlen : payload.flatten.length < 2 ^ 62)
    (hc : Writer.willCompress cfg fc opcode.toNat payload.flatten.length = false)
    (h : Trans.Conn_genFrame GenOut.ret GenOut.compress opcode payload.flatten (cfg_checkEncoding := fc.checkEncoding)
          (c_config_WriteMaxPayloadSize := (cfg.writeMax : Int)) (cfg_compress := fc.compress) (c_pd_Threshold := (cfg.threshold : Int))
          (cfg_fin := fc.fin) (cfg_broadcast := fc.broadcast) (c_isServer := cfg.isServer) (maskNum := maskNum) = GenOut.ret (wire, none)) :
    ∃ hdr, Spec.decodeFrames wire = some [(hdr, payload.flatten)] ∧
      Spec.wellFormedSent (!cfg.isServer) hdr ∧ hdr.fin = fc.fin ∧ hdr.rsv1 = false ∧ hdr.opcode = opcode.toNat ∧
      hdr.len = payload.flatten.length := by
  have he := genFrame_eq cfg codec cps opcode payload fc maskNum hlen
  rw [h] at he
  simp only [interpW] at he
  exact Writer.genFrame_decodes cfg codec cps opcode.toNat payload fc (goBytesU32LE maskNum) wire hop (by simp [goBytesU32LE])
    (by omega) hc he.symm

/-! ## C01: what the translated `genFrame` of one endpoint puts on the wire, the translated `readMessage` of the other
endpoint delivers -/

/-- **End to end on the translated source.**  The frame the sender's `genFrame` (as translated from writer.go) builds for a
final Text/Binary message on its uncompressed branch is, when it is the next thing in the receiver's input, turned by ONE
`readMessage` (the translated segments of reader.go in the order of the Go function, `readMessageT`) into exactly one
callback with the same opcode and the byte-identical payload; the receiver's state is unchanged and the input is
consumed up to the end of the frame.  The receiver has the opposite role, its limit admits the payload, its UTF-8 gate
(if on) passes it and it is not in the middle of a fragmented message. -/
theorem frame_delivered_end_to_end (w : Writer.Cfg) (r : Reader.Cfg) (codec : Codec)
    (hrole : r.isServer = !w.isServer) (hint : r.readMax < 2 ^ 63)
    (cps : Win) (opcode : UInt8) (payloads : List Bytes) (fc : Writer.FrameCfg) (maskNum : UInt32) (wire : Bytes)
    (hop : opcode = 1 ∨ opcode = 2) (hfin : fc.fin = true) (hlen : payloads.flatten.length < 2 ^ 62)
    (hz : Writer.willCompress w fc opcode.toNat payloads.flatten.length = false)
    (hg : Trans.Conn_genFrame GenOut.ret GenOut.compress opcode payloads.flatten (cfg_checkEncoding := fc.checkEncoding)
          (c_config_WriteMaxPayloadSize := (w.writeMax : Int)) (cfg_compress := fc.compress) (c_pd_Threshold := (w.threshold : Int))
          (cfg_fin := fc.fin) (cfg_broadcast := fc.broadcast) (c_isServer := w.isServer) (maskNum := maskNum) = GenOut.ret (wire, none))
    (hfit : (payloads.flatten.length : Int) ≤ r.readMax)
    (htext : r.checkUtf8 = true → opcode = 1 → Spec.Utf8.valid payloads.flatten = true)
    (st : Reader.State) (hidle : st.cont.initialized = false) (hst : st.cont.opcode < 256)
    (fh rest : Bytes) (hfh : fh.length = 14) :
    readMessageT r codec st fh (wire ++ rest) = .ok st [.msg opcode.toNat payloads.flatten] rest := by
  rw [readMessage_eq_step r codec st fh (wire ++ rest) hfh hst]
  have he := genFrame_eq w codec cps opcode payloads fc maskNum hlen
  rw [hg] at he
  simp only [interpW] at he
  have hop' : opcode.toNat = 1 ∨ opcode.toNat = 2 := hop.imp (congrArg UInt8.toNat) (congrArg UInt8.toNat)
  have htext' : r.checkUtf8 = true → opcode.toNat = 1 → Spec.Utf8.valid payloads.flatten = true :=
    fun hc h1 => htext hc (UInt8.toNat_inj.mp h1)
  exact C01.frame_delivered w r codec hrole hint cps opcode.toNat payloads fc (goBytesU32LE maskNum) wire (by simp [goBytesU32LE])
    hop' hfin hz he.symm hfit htext' st hidle rest

/-- **End to end, compressed.**  When the translated `genFrame` takes its compressing branch (it hands over to `compressData`,
which `TransEquiv.compressData_eq` ties to the source; the DEFLATE library is the `Codec` parameter with the laws
`RoundTrip` and `MinOut` as hypotheses), the frame it yields is turned by ONE translated `readMessage` of a receiver
whose decompression window holds the dictionary the sender compressed against into exactly one callback with the same
opcode and the byte-identical payload, and the payload enters the receiver's window. -/
theorem frame_delivered_compressed_end_to_end (w : Writer.Cfg) (r : Reader.Cfg) (codec : Codec)
    (hrole : r.isServer = !w.isServer) (hint : r.readMax < 2 ^ 63) (hpd : r.pdEnabled = true)
    (hRT : Compose.RoundTrip codec) (hMin : Compose.MinOut codec)
    (cps : Win) (opcode : UInt8) (payloads : List Bytes) (fc : Writer.FrameCfg) (maskNum : UInt32) (wire : Bytes)
    (hop : opcode = 1 ∨ opcode = 2) (hfin : fc.fin = true) (hnb : fc.broadcast = false) (hlen : payloads.flatten.length < 2 ^ 62)
    (hz : Writer.willCompress w fc opcode.toNat payloads.flatten.length = true)
    (hg : interpW w codec cps payloads (goBytesU32LE maskNum)
          (Trans.Conn_genFrame GenOut.ret GenOut.compress opcode payloads.flatten (cfg_checkEncoding := fc.checkEncoding)
            (c_config_WriteMaxPayloadSize := (w.writeMax : Int)) (cfg_compress := fc.compress) (c_pd_Threshold := (w.threshold : Int))
            (cfg_fin := fc.fin) (cfg_broadcast := fc.broadcast) (c_isServer := w.isServer) (maskNum := maskNum)) = .ok wire)
    (hfit : (payloads.flatten.length : Int) ≤ r.readMax)
    (hzfit : ((Writer.stripTail (codec.compress w.bits cps.dict payloads)).length : Int) ≤ r.readMax)
    (htext : r.checkUtf8 = true → opcode = 1 → Spec.Utf8.valid payloads.flatten = true)
    (st : Reader.State) (hidle : st.cont.initialized = false) (hst : st.cont.opcode < 256) (hdict : cps.dict = st.dps.dict)
    (fh rest : Bytes) (hfh : fh.length = 14) :
    readMessageT r codec st fh (wire ++ rest) =
      .ok { st with dps := st.dps.write payloads.flatten } [.msg opcode.toNat payloads.flatten] rest := by
  rw [readMessage_eq_step r codec st fh (wire ++ rest) hfh hst]
  rw [genFrame_eq w codec cps opcode payloads fc maskNum hlen] at hg
  have hop' : opcode.toNat = 1 ∨ opcode.toNat = 2 := hop.imp (congrArg UInt8.toNat) (congrArg UInt8.toNat)
  have htext' : r.checkUtf8 = true → opcode.toNat = 1 → Spec.Utf8.valid payloads.flatten = true :=
    fun hc h1 => htext hc (UInt8.toNat_inj.mp h1)
  exact C01.frame_delivered_compressed w r codec hrole hint hpd hRT hMin cps opcode.toNat payloads fc (goBytesU32LE maskNum) wire
    (by simp [goBytesU32LE]) hop' hfin hnb hz hg hfit hzfit htext' st hidle hdict rest

end TransProps
