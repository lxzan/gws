import Gws.Lemmas.Mask
/-!
# C18 — the masking transform equals RFC 6455 byte-wise XOR for all lengths and keys

Statement: the masking routine transforms byte i of a buffer into byte i XOR key[i mod 4] for every
buffer length, alignment and key, touches nothing outside the buffer, and applying it twice restores
the input; consequently every client-sent payload on the wire unmasks to the application payload.

"Alignment" and "touches nothing outside the buffer" are statements about memory; on the model
they appear as: the result depends only on the buffer's contents (it is a function of `b`), and it
has the same length (`maskXOR_length`).  For the memory itself: the routine uses no `unsafe`, so Go's bounds checks
hold (`SourceShape.mask_bounds_checked`), and the tie (suite `mask`) runs the real routine at every offset of a backing
array with guard bytes on both sides.
-/

namespace Mask

/-- **C18, values.** For every key and every buffer (no bound on its length), the three-loop word
implementation produces byte `i` XOR `key[i mod 4]` at every index. -/
theorem maskXOR_eq (k : Key) (b : List B8) :
    maskXOR k b = b.mapIdx fun i x => x ^^^ k.get i := maskXOR_spec k b

/-- index form of the same statement -/
theorem maskXOR_getElem (k : Key) (b : List B8) (i : Nat) (h : i < b.length) :
    (maskXOR k b)[i]'(by rw [maskXOR_eq]; simpa using h) = b[i] ^^^ k.get i := by
  simp [maskXOR_eq]

/-- **C18, extent.** The transform returns a buffer of exactly the input's length. -/
theorem maskXOR_length (k : Key) (b : List B8) : (maskXOR k b).length = b.length := by
  simp [maskXOR_eq]

/-- **C18, involution.** Applying the transform twice with the same key restores the input; in
particular unmasking a client-masked payload yields the application payload. -/
theorem maskXOR_involutive (k : Key) (b : List B8) : maskXOR k (maskXOR k b) = b := by
  apply List.ext_getElem
  · simp [maskXOR_length]
  · intro i h1 h2
    rw [maskXOR_getElem k _ i (by simpa [maskXOR_length] using h2), maskXOR_getElem k b i h2]
    rw [BitVec.xor_assoc, BitVec.xor_self, BitVec.xor_zero]

/-- **C18, prefix stability.** Masking a prefix of a buffer is the prefix of masking the buffer: byte
`i` of the result depends on byte `i` and the key only (no carry between the 8-byte words of the
two word loops and the byte tail of the implementation). -/
theorem maskXOR_take (k : Key) (b : List B8) (n : Nat) :
    (maskXOR k b).take n = maskXOR k (b.take n) := by
  apply List.ext_getElem
  · simp [maskXOR_length]
  · intro i h1 h2
    have hi : i < n ∧ i < b.length := by
      simp [maskXOR_length] at h2; omega
    rw [List.getElem_take, maskXOR_getElem k b i hi.2, maskXOR_getElem k _ i (by simp; omega)]
    simp

/-- masking under two keys in turn is masking under their XOR (so a relay that re-masks, as a client
writing a broadcast frame does, still leaves a payload that unmasks with one key) -/
theorem maskXOR_maskXOR (k k' : Key) (b : List B8) :
    maskXOR k (maskXOR k' b) = maskXOR ⟨k.k0 ^^^ k'.k0, k.k1 ^^^ k'.k1, k.k2 ^^^ k'.k2, k.k3 ^^^ k'.k3⟩ b := by
  have hget : ∀ i, (⟨k.k0 ^^^ k'.k0, k.k1 ^^^ k'.k1, k.k2 ^^^ k'.k2, k.k3 ^^^ k'.k3⟩ : Key).get i = k.get i ^^^ k'.get i := by
    intro i; unfold Key.get; split <;> rfl
  simp only [maskXOR_eq, List.mapIdx_mapIdx, hget, Function.comp_def, BitVec.xor_assoc, BitVec.xor_comm (k'.get _)]

/-- `key[i mod 4]` really is indexing the 4-byte key at `i mod 4`. -/
theorem Key.get_eq (k : Key) (i : Nat) :
    (i % 4 = 0 → k.get i = k.k0) ∧ (i % 4 = 1 → k.get i = k.k1) ∧
    (i % 4 = 2 → k.get i = k.k2) ∧ (i % 4 = 3 → k.get i = k.k3) := by
  unfold Key.get
  refine ⟨?_, ?_, ?_, ?_⟩ <;> intro h <;> simp [h]

-- not the identity; 75 bytes are one round of the 64-byte loop, one of the 8-byte loop and three tail bytes
-- (the proofs evaluate the specification side of `maskXOR_eq`, they do not run the loops)
example : maskXOR ⟨1, 2, 3, 4⟩ [0, 0, 0, 0, 0] = [1, 2, 3, 4, 1] := by rw [maskXOR_eq]; decide
example : (maskXOR ⟨1, 2, 3, 4⟩ (List.replicate 75 0))[74]? = some 3 := by rw [maskXOR_eq]; decide

end Mask
