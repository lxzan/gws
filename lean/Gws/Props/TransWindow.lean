import Gws.Generated.Trans
import Gws.Lemmas.Trans
import Gws.Model.Window
import Gws.Model.Pool
/-!
# T3 — `slideWindow.Write`, `internal.BinaryPow`, `internal.binaryCeil`, `internal.Max/Min`, translated
from the source on every run, equal the model functions C17 / C02 / C04 are proved about; which payloads `doWrite` and
`Broadcaster.writeFrame` write to the window; which compressor `deflater.initialize` builds.
-/
namespace TransEquiv

theorem int_sub_pos (a b : Nat) : ((a : Int) - (b : Int) > 0) ↔ a - b > 0 := by omega

/-- `slideWindow.Write` = `Win.write` (all four branches); the byte count it returns is `len(p)`, or 0 for a
disabled window -/
theorem slideWindow_Write_eq (w : Win) (p : Bytes) :
    Trans.slideWindow_Write p (c_enabled := w.enabled) (c_dict := w.dict) (c_size := (w.size : Int)) =
      ((w.write p).dict, (if w.enabled then (p.length : Int) else 0), none) := by
  unfold Trans.slideWindow_Write Win.write
  cases hE : w.enabled
  · simp
  · -- the code compares `Int`s that are casts: turn these into the model's comparisons of naturals
    simp only [Bool.not_true, Bool.false_eq_true, ↓reduceIte, Int.ofNat_eq_natCast, ← Int.natCast_add, Int.ofNat_le,
      int_sub_pos, Int.toNat_sub, ge_iff_le]
    by_cases h1 : p.length + w.dict.length ≤ w.size
    · simp [h1]
    · -- with or without the fill step, both sides end in the same last test (overwrite or shift)
      by_cases hm : w.size - w.dict.length > 0 <;> simp [h1, hm, apply_ite Win.dict] <;> split <;> rfl

/-- `BinaryPow(n)` = 2^n: the window size `initialize` computes is the model's `Win.init` size -/
theorem BinaryPow_eq (n : Nat) : Trans.internal_BinaryPow (n : Int) = (((Win.init n).size : Nat) : Int) := by
  unfold Trans.internal_BinaryPow Win.init
  simp only [Int.toNat_natCast]
  have : ∀ (k : Nat) (a : Int), (List.range k).foldl (fun ans i' => ans * (2 ^ 1 : Int)) a = a * ((2 ^ k : Nat) : Int) := by
    intro k
    induction k with
    | zero => intro a; simp
    | succ k ih => intro a; rw [List.range_succ, List.foldl_append, ih]; simp [Nat.pow_succ, Int.mul_assoc]
  simpa using this n 1

theorem binaryCeil_eq (v : UInt32) : (Trans.internal_binaryCeil v).toBitVec = Pool.binaryCeil v.toBitVec := by
  unfold Trans.internal_binaryCeil Pool.binaryCeil
  simp

theorem Max_eq (a b : Int) : Trans.internal_Max a b = max a b := by
  unfold Trans.internal_Max; simp only [gt_iff_lt, decide_eq_true_eq]; split <;> omega
theorem Min_eq (a b : Int) : Trans.internal_Min a b = min a b := by
  unfold Trans.internal_Min; simp only [decide_eq_true_eq]; split <;> omega

/-! The code writes every data frame's payload to the window, `Session.sendUpdate` only a compressed message's
(`Cfg.compresses`).  On a session's windows that is the same: one is enabled only under context takeover (`Cfg.winInit`),
where the threshold is 0 (`setThreshold_eq`) and every data message is compressed; a disabled one ignores the write
(`Win.write_off`).  No theorem takes that step; the `sess` suite compares all four windows with the model's. -/

/-- `doWrite`: the payload of a data frame (Continuation, Text, Binary) enters the compression window, the payload of a
control frame does not (defect 10 of DESIGN section 6 was exactly this rule) -/
theorem doWrite_windowRule_eq (w : Win) (opcode : UInt8) (payload : Bytes) :
    Trans.Conn_doWrite_windowRule (c_cpsWindow_enabled := w.enabled) (c_cpsWindow_dict := w.dict) (c_cpsWindow_size := (w.size : Int))
        (opcode := opcode) (payload := payload)
      = .ok (if opcode.toNat ≤ Facts.dataFrameMaxOpcode then (w.write payload).dict else w.dict) := by
  unfold Trans.Conn_doWrite_windowRule
  rw [slideWindow_Write_eq]
  have h : Trans.Opcode_isDataFrame opcode = decide (opcode.toNat ≤ Facts.dataFrameMaxOpcode) := by
    revert opcode; apply u8_forall; decide +kernel
  rw [h]
  by_cases hd : opcode.toNat ≤ Facts.dataFrameMaxOpcode <;> simp [hd]

/-- `Broadcaster.writeFrame`: the broadcast payload enters the window iff the shared frame has RSV1 set, i.e. was built
compressed (defect 11) -/
theorem broadcast_windowRule_eq (w : Win) (frame payload : Bytes) :
    Trans.Broadcaster_writeFrame_windowRule (c_payload := payload) (socket_cpsWindow_enabled := w.enabled) (socket_cpsWindow_dict := w.dict)
        (socket_cpsWindow_size := (w.size : Int)) (frame := frame)
      = .ok (if ((goIdx frame 0).toNat / 64 % 2 = 1) then (w.write payload).dict else w.dict) := by
  unfold Trans.Broadcaster_writeFrame_windowRule
  rw [slideWindow_Write_eq]
  have h : ∀ b : UInt8, ((b &&& (64 : UInt8)) != (0 : UInt8)) = decide (b.toNat / 64 % 2 = 1) := by
    intro b; revert b; apply u8_forall; decide +kernel
  rw [h]
  by_cases hd : (goIdx frame 0).toNat / 64 % 2 = 1 <;> simp [hd]

/-- which compressor a connection's deflater is built with (the constructor calls themselves stay outside the translation:
their arguments are what the property depends on) -/
inductive Built where
  | default (level : Int)     -- `flate.NewWriter`: the library's 32 KiB window
  | window (size : Int)       -- `flate.NewWriterWindow(size)`: matches at most `size` bytes back
deriving DecidableEq, Repr

/-- `deflater.initialize`: the side's own negotiated window bits pick the compressor — the unrestricted 32 KiB writer only for
15 bits, otherwise a writer limited to exactly 2^bits = the size of the model's window (`Win.init bits`), the bound every
back-reference of C02 is proved against.  The two constructors are free calls of the translation, instantiated to stop
(`.error`) with what they were called with, so that the equation says which one is called; `ret` is not reached. -/
theorem compressor_window (isServer : Bool) (serverBits clientBits : Nat) (level : Int) :
    Trans.deflater_initialize_window (R := Built) (ret := fun _ => Built.default 0)
        (flate_NewWriter := fun l _ => .error (Built.default l)) (flate_NewWriterWindow := fun n _ => .error (Built.window n))
        (options_ClientMaxWindowBits := (clientBits : Int)) (options_Level := level) (options_ServerMaxWindowBits := (serverBits : Int))
        (isServer := isServer)
      = .error (let bits := if isServer then serverBits else clientBits
                if bits = 15 then Built.default level else Built.window (((Win.init bits).size : Nat) : Int)) := by
  unfold Trans.deflater_initialize_window
  -- both sides choose the side's bits first; after that the statement is about one number
  have hb : (if isServer then (serverBits : Int) else clientBits) = ((if isServer then serverBits else clientBits : Nat) : Int) := by
    cases isServer <;> rfl
  simp only [hb, BinaryPow_eq]
  generalize (if isServer = true then serverBits else clientBits) = bits
  by_cases h : bits = 15
  · subst h; rfl
  · have : ((bits : Int) == (15 : Int)) = false := by simp; omega
    simp [this, h]

example : Trans.deflater_initialize_window (R := Built) (ret := fun _ => Built.default 0)
    (flate_NewWriter := fun l _ => .error (Built.default l)) (flate_NewWriterWindow := fun n _ => .error (Built.window n))
    (options_ClientMaxWindowBits := 15) (options_Level := 1) (options_ServerMaxWindowBits := 9) (isServer := true)
      = .error (Built.window 512) := by rfl

example : Trans.slideWindow_Write [1, 2, 3] (c_enabled := true) (c_dict := [9, 8]) (c_size := 4) = ([8, 1, 2, 3], 3, none) := by decide
example : Trans.internal_binaryCeil 129 = 256 ∧ Trans.internal_BinaryPow 8 = 256 := by decide

end TransEquiv
