import Gws.Props.TransFrame
import Gws.Props.TransClose
import Gws.Lemmas.WriterFrame
/-!
# T3 — `genFrame` (writer.go), translated from the source on every run, equals the model's `Writer.genFrame`

The payload is given to the translation as its bytes (`internal.Payload` = the concatenation of its slices);
`compressData` is left uninterpreted (`Trans.Conn_genFrame` is polymorphic in the result type): it is instantiated
with a constructor and `interpW` hands its arguments to the model's `Writer.compressData`.  `MaskXOR` is used by its
specification (`goMaskXOR`), which C18 proves of the implementation.
-/
set_option linter.unusedSimpArgs false   -- deliberate: arguments idle under today's translation serve when the Go code is re-spelled

namespace TransEquiv

inductive GenOut where
  | ret (r : Bytes × Option GoErr)
  | compress (opcode : UInt8) (payload buf : Bytes) (fin compress broadcast checkEncoding : Bool)

/-- On a call of `compressData` the buffer and the frame configuration are taken from the call, the payload is NOT: the
model's `payload` (the slices) stands for it, so `genFrame_eq` leaves open which bytes `genFrame` hands to `compressData`.
`genFrame` returns no error value other than the two named: the fourth arm is not reached. -/
def interpW (cfg : Writer.Cfg) (codec : Codec) (cps : Win) (payload : List Bytes) (key : Bytes) : GenOut → Except Writer.WErr Bytes
  | .ret (b, none) => .ok b
  | .ret (_, some (.named "ErrTextEncoding")) => .error .textEncoding
  | .ret (_, some (.named "ErrMessageTooLarge")) => .error .messageTooLarge
  | .ret (_, some _) => .error (.panic "unexpected error value")
  | .compress op _ buf fin compress broadcast checkEncoding =>
    Writer.compressData cfg codec cps op.toNat payload buf
      { fin := fin, compress := compress, broadcast := broadcast, checkEncoding := checkEncoding } key

theorem GenerateHeader_len (isServer fin compress : Bool) (opcode : UInt8) (n : Nat) (hn : n < 2 ^ 63) (maskNum : UInt32) :
    (Trans.frameHeader_GenerateHeader (List.replicate 14 0) isServer fin compress opcode (n : Int) maskNum).2.1
      = ((Frame.genHeader isServer fin compress opcode.toNat n (goBytesU32LE maskNum)).length : Int) := by
  have h64 : goUIntOfInt64 (n : Int) = UInt64.ofNat n := by
    unfold goUIntOfInt64
    congr 1
    omega
  have r14 : List.replicate 14 (0 : UInt8) = 0 :: List.replicate 13 0 := rfl
  unfold Trans.frameHeader_GenerateHeader Frame.genHeader
  simp only [r14, List.set_cons_zero, h64, SetLength_eq _ n hn]
  by_cases h1 : n ≤ 125 <;> by_cases h2 : n ≤ 65535 <;> cases isServer <;>
    simp [h1, h2, Facts.thresholdV1, Facts.thresholdV2, goBytesU32LE, Frame.u16be, Frame.u64be]

private theorem maskXOR_eq (maskNum : UInt32) (p : Bytes) :
    goMaskXOR p (goBytesU32LE maskNum) = Reader.unmask (goBytesU32LE maskNum) p := maskXOR_key _ p rfl

/-- the tail shared by the translated `genFrame` and `compressData` — `GenerateHeader` into a fresh header array (`g`), mask
`contents[14:]` on a client (`C1`), copy the header over the end of the padding, `buf.Next(m)` — is the model's
`Writer.backfill` of `Frame.genHeader` -/
theorem goBackfill_eq (isServer fin compress : Bool) (opcode : UInt8) (n : Nat) (hn : n < 2 ^ 63) (maskNum : UInt32)
    (g : Bytes × Int × Bytes)
    (hg : g = Trans.frameHeader_GenerateHeader (List.replicate 14 0) isServer fin compress opcode (n : Int) maskNum)
    (C C1 : Bytes) (hC : 14 ≤ C.length) (hC1 : C1 = if isServer then C else goCopy C 14 (goMaskXOR (C.drop 14) g.2.2)) :
    List.drop ((14 : Int) - g.2.1).toNat (goCopy C1 ((14 : Int) - g.2.1).toNat (g.1.take g.2.1.toNat))
      = Writer.backfill isServer (Frame.genHeader isServer fin compress opcode.toNat n (goBytesU32LE maskNum)) C
          (goBytesU32LE maskNum) := by
  obtain ⟨hg1, hg2⟩ := GenerateHeader_eq isServer fin compress opcode n hn maskNum
  have hg3 := GenerateHeader_len isServer fin compress opcode n hn maskNum
  rw [← hg] at hg1 hg2 hg3
  generalize Frame.genHeader isServer fin compress opcode.toNat n (goBytesU32LE maskNum) = H at hg1 hg3 ⊢
  have hm : ((14 : Int) - g.2.1).toNat = 14 - H.length := by rw [hg3]; omega
  rw [hC1, hm, hg1, hg2]
  unfold Writer.backfill
  simp only [Facts.frameHeaderSize]
  cases isServer
  · simp only [Bool.not_false, if_true, Bool.false_eq_true, if_false]
    rw [maskXOR_eq, goCopy_tail C _ 14 (by simp; omega)]
  · rfl

theorem goU32BE_eq_be32 (a b c d : UInt8) : goU32BE [a, b, c, d] = 65535 ↔ Writer.be32 [a, b, c, d] = 65535 := by
  unfold goU32BE Writer.be32 goIdx
  simp only [List.getD_cons_zero, List.getD_cons_succ]
  have ha := a.toNat_lt; have hb := b.toNat_lt; have hc := c.toNat_lt; have hd := d.toNat_lt
  generalize hx : ((a.toNat * 256 + b.toNat) * 256 + c.toNat) * 256 + d.toNat = x
  have hx4 : x < 4294967296 := by omega
  constructor
  · intro h
    have := congrArg UInt32.toNat h
    simp at this
    omega
  · intro h; subst h; rfl

theorem stripTail_go (d : Bytes) :
    Writer.stripTail d =
      if (d.length : Int) ≥ 4 then
        (if goU32BE (d.drop ((d.length : Int) - 4).toNat) = 65535 then d.take ((d.length : Int) - 4).toNat else d)
      else d := by
  have hn : ((d.length : Int) - 4).toNat = d.length - 4 := by omega
  have hI : ((d.length : Int) ≥ 4) = (4 ≤ d.length) := by apply propext; omega
  unfold Writer.stripTail
  simp only [hn, hI]
  by_cases h4 : 4 ≤ d.length
  · have hl : (d.drop (d.length - 4)).length = 4 := by simp; omega
    generalize d.drop (d.length - 4) = t at hl
    match t, hl with
    | [a, b, c, e], _ => simp [h4, goU32BE_eq_be32]
  · simp [h4]

/-- `genFrame` = `Writer.genFrame` for every opcode, payload (any slicing), frame configuration and mask key.  `hlen`: the
length is handed to `GenerateHeader` as a Go `int` (`SetLength_eq` wants it below 2^63; the statement asks for 2^62) -/
theorem genFrame_eq (cfg : Writer.Cfg) (codec : Codec) (cps : Win) (opcode : UInt8) (payload : List Bytes)
    (fc : Writer.FrameCfg) (maskNum : UInt32) (hlen : payload.flatten.length < 2 ^ 62) :
    interpW cfg codec cps payload (goBytesU32LE maskNum)
      (Trans.Conn_genFrame GenOut.ret GenOut.compress opcode payload.flatten (cfg_checkEncoding := fc.checkEncoding)
        (c_config_WriteMaxPayloadSize := (cfg.writeMax : Int)) (cfg_compress := fc.compress) (c_pd_Threshold := (cfg.threshold : Int))
        (cfg_fin := fc.fin) (cfg_broadcast := fc.broadcast) (c_isServer := cfg.isServer) (maskNum := maskNum))
      = Writer.genFrame cfg codec cps opcode.toNat payload fc (goBytesU32LE maskNum) := by
  have hce : Trans.internal_CheckEncoding fc.checkEncoding opcode payload.flatten
      = Utf8.buffersCheck fc.checkEncoding opcode.toNat payload := by
    rw [CheckEncoding_eq]; unfold Utf8.checkEncoding Utf8.buffersCheck; rw [Utf8.validJoined_eq]
  have e1 : (opcode == (1 : UInt8)) = decide (opcode.toNat = Facts.opText) := by
    rw [u8_beq]; rfl
  have hc2 : decide ((payload.flatten.length : Int) > (cfg.writeMax : Int)) = decide (payload.flatten.length > cfg.writeMax) := by
    rw [decide_eq_decide]; omega
  have hc3 : ((fc.compress && Trans.Opcode_isDataFrame opcode) && decide ((payload.flatten.length : Int) ≥ (cfg.threshold : Int)))
      = Writer.willCompress cfg fc opcode.toNat payload.flatten.length := by
    unfold Writer.willCompress
    rw [isDataFrame_eq]
    congr 1
    rw [decide_eq_decide]; omega
  unfold Trans.Conn_genFrame Writer.genFrame
  -- the four things the function decides on, as the model spells them; after that both sides are reduced with these
  -- facts, so the proof does not depend on how the code nests or names its conditions
  simp only [Int.ofNat_eq_natCast, e1, hce, hc2, hc3, decide_eq_true_eq, Bool.and_eq_true, Bool.not_eq_true', Bool.not_eq_true]
  have ht' : (opcode.toNat = Facts.opText) = True ∨ (opcode.toNat = Facts.opText) = False := by
    by_cases ht : opcode.toNat = Facts.opText
    · exact Or.inl (eq_true ht)
    · exact Or.inr (eq_false ht)
  rcases ht' with ht | ht <;>
  cases hb : Utf8.buffersCheck fc.checkEncoding opcode.toNat payload <;>
  by_cases hm : payload.flatten.length > cfg.writeMax <;>
  cases hw : Writer.willCompress cfg fc opcode.toNat payload.flatten.length <;>
  simp only [ht, hb, hm, hw, and_true, and_false, true_and, false_and, if_true, if_false, ↓reduceIte, not_true_eq_false, not_false_eq_true,
    Bool.false_eq_true, decide_true, decide_false, Bool.true_eq_false, interpW, reduceCtorEq] <;>
  (try rfl)
  all_goals exact congrArg Except.ok (goBackfill_eq cfg.isServer fc.fin false opcode payload.flatten.length (by omega) maskNum _ rfl
    (Writer.padding ++ payload.flatten) _ (by simp [Writer.padding, Facts.frameHeaderSize]) (by cases cfg.isServer <;> rfl))

end TransEquiv
