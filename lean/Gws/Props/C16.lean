import Gws.Model.Utf8
import Gws.Lemmas.Utf8
/-!
# C16 — UTF-8 is enforced on whole text payloads (write side and the gate itself)

Statement: with UTF-8 checking on, a text message is put on the wire iff its complete payload (all
slices concatenated) is valid UTF-8, and a received text message or close reason is accepted iff its
complete reassembled and inflated payload is valid UTF-8.  Code points split across fragments or
slices are fine, invalid text is answered with status 1007 and never delivered, binary messages are
never checked, and with checking off nothing is rejected on encoding grounds.

This file: the gate functions (`internal/io.go`).  The read-side clauses (after reassembly and
inflation, status 1007, never delivered) are in `Gws/Props/C16Read.lean`; the close-reason clause is
`Close.emitClose_spec` (C06).  `utf8.Valid` = RFC 3629 is assumed (trusted base) and compared
exhaustively on every string of ≤ 3 bytes on every run.
-/

namespace Utf8

/-- **Write gate, slice list.** With checking on, a Text (or Close) payload given as any list of
slices passes iff the concatenation of the slices is valid UTF-8 — however a code point is split. -/
theorem write_gate (opcode : Nat) (ps : List Bytes) (hop : opcode = 1 ∨ opcode = 8) :
    buffersCheck true opcode ps = Spec.Utf8.valid ps.flatten := by
  unfold buffersCheck
  rcases hop with rfl | rfl <;> simp [validJoined_eq]

/-- **Write gate, single slice.** -/
theorem write_gate_bytes (opcode : Nat) (p : Bytes) (hop : opcode = 1 ∨ opcode = 8) :
    bytesCheck true opcode p = Spec.Utf8.valid p := by
  unfold bytesCheck checkEncoding
  rcases hop with rfl | rfl <;> simp

/-- **Splitting is irrelevant.** Any two ways of cutting the same payload into slices get the same
verdict. -/
theorem split_invariant (en : Bool) (opcode : Nat) (ps qs : List Bytes) (h : ps.flatten = qs.flatten) :
    buffersCheck en opcode ps = buffersCheck en opcode qs := by
  unfold buffersCheck
  rw [validJoined_eq, validJoined_eq, h]

/-- **Payloads other than Text and Close are never checked** (Binary, Continuation, Ping, Pong). -/
theorem binary_never_checked (en : Bool) (opcode : Nat) (ps : List Bytes) (h1 : opcode ≠ 1) (h8 : opcode ≠ 8) :
    buffersCheck en opcode ps = true ∧ ∀ p, bytesCheck en opcode p = true := by
  unfold buffersCheck bytesCheck checkEncoding
  simp [h1, h8]

/-- **Checking off: nothing is rejected on encoding grounds.** -/
theorem check_off_never_rejects (opcode : Nat) (ps : List Bytes) :
    buffersCheck false opcode ps = true ∧ ∀ p, bytesCheck false opcode p = true := by
  unfold buffersCheck bytesCheck checkEncoding
  simp

/-- **A valid piece can be dropped from the front.** If a prefix is itself valid UTF-8 the verdict on
the whole is the verdict on the rest; so per-piece validation is *sufficient* for whole-payload
validity (`pieces_valid_imp_gate`). -/
theorem valid_append_of_valid (a b : Bytes) (ha : Spec.Utf8.valid a = true) :
    Spec.Utf8.valid (a ++ b) = Spec.Utf8.valid b := by
  open Spec.Utf8 in
  fun_induction valid a
  case case1 => rfl
  -- `a` starts with a sequence `valid` rejects
  case case4 | case6 | case8 | case9 => cases ha
  -- `a` starts with a code point of one byte …
  case case2 h ih =>
    rw [List.cons_append, valid_cons, if_pos h]
    exact ih ha
  -- … or of 2, 3, 4 bytes that passed the tests `hx`: on `a ++ b` the same tests are made, and what follows is `ih`
  all_goals
    rename_i ih
    obtain ⟨hx, hr⟩ := (Bool.and_eq_true _ _).mp ha
    simp only [List.cons_append]
    rw [valid_cons]
    simp only [*, Bool.false_eq_true, if_true, if_false, ih hr, Bool.true_and]

/-- slices that are each valid form a payload the gate accepts -/
theorem pieces_valid_imp_gate (ps : List Bytes) (h : ∀ p ∈ ps, Spec.Utf8.valid p = true) :
    buffersCheck true 1 ps = true := by
  rw [write_gate 1 ps (Or.inl rfl)]
  induction ps with
  | nil => exact Spec.Utf8.valid_nil
  | cons p ps ih =>
    rw [List.flatten_cons, valid_append_of_valid p _ (h p (by simp))]
    exact ih fun q hq => h q (by simp [hq])

/-- **Per-piece validity is not necessary**: the gate accepts a payload none of whose slices is valid by itself (a
code point split between slices). A per-slice validator is therefore strictly stronger than the
property allows — this is the difference between `write_gate` and the defect repaired in section 6. -/
theorem per_piece_check_too_strict :
    buffersCheck true 1 [[0xE4, 0xB8], [0xAD]] = true ∧
    Spec.Utf8.valid [0xE4, 0xB8] = false ∧ Spec.Utf8.valid [0xAD] = false := by
  refine ⟨?_, ?_, ?_⟩
  · rw [write_gate 1 _ (Or.inl rfl)]; simp [Spec.Utf8.valid_nil, Spec.Utf8.valid_cons, Spec.Utf8.isCont]
  · simp [Spec.Utf8.valid_cons]
  · simp [Spec.Utf8.valid_cons]

/-! ## non-vacuity: "中" = e4 b8 ad split inside the code point is accepted; a lone continuation byte is not -/

example : buffersCheck true 1 [[0xe4, 0xb8], [0xad]] = true := per_piece_check_too_strict.1
example : buffersCheck true 1 [[0x61], [0x80]] = false := by
  rw [write_gate 1 _ (Or.inl rfl)]; simp [Spec.Utf8.valid_cons]

end Utf8
