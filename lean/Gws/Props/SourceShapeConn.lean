import Gws.Generated.Facts
/-!
# Source-shape obligations of the connection transition system (C06–C09)

`Conc.step` takes one `c.mu` critical section, one CAS and one transport write as atomic actions.  Which
statements form such a section is read off the Go source by `tools/factgen` on every run
(`Gws/Generated/Facts.lean`).  `conn_sections` asserts, by evaluation, that the regenerated facts are the
ones the model was written for; when the source changes shape (a lock dropped, a closed test moved out of
the locked region, a second writer of the closed flag, a new transport write site) it no longer checks, the
properties' proof obligations are broken and the check searches for a failing schedule.
`handshake_entry_closes_on_error` is the handshake clause of C09.
-/

namespace SourceShape

/-- C06/C07/C08/C09: the write lock, the closed flag and the transport writes are used as the
transition system says. -/
theorem conn_sections :
    Facts.doWriteLocks = true ∧ Facts.doWriteClosedCheckUnderLock = true ∧
    Facts.doWriteFileLocks = true ∧ Facts.fileClosedCheckPerFrameUnderLock = true ∧
    Facts.bcClosedCheckUnderLock = true ∧ Facts.bcWriteUnderLock = true ∧
    Facts.closedOnlySetByCas = true ∧ Facts.writeCloseOnlyBehindCas = true ∧
    Facts.closedCasSites = ["Conn.WriteClose", "Conn.emitClose", "Conn.emitError"] ∧
    Facts.writeCloseCallers = ["Conn.WriteClose", "Conn.emitClose", "Conn.emitError"] ∧
    Facts.transportWriteSites = ["Broadcaster.writeFrame", "Conn.doWrite", "Conn.doWriteFile", "Upgrader.writeErr",
      "connector.request", "responseWriter.Write"] ∧
    Facts.doWriteOrder = ["genFrame", "write", "window"] ∧
    Facts.readLoopShape = ["open", "loop", "close", "reclaim"] ∧
    Facts.dispatchDefersRecovery = true ∧ Facts.closeOpcodeTakesClosePath = true ∧
    Facts.readLoopNeverWaitsForWriteLock = true ∧ Facts.deadlineSettersLockFree = true := by decide

/-- C09 (handshake clause): `UpgradeFromConn`, `NewClient` and `NewClientFromConn` run the inner
handshake procedure and, when it reports an error, close the transport before returning that error.
Which transport operation failed does not matter to this wrapper, so the clause "for every position
k of every transport operation of the handshake" reduces to "the inner procedure reports the
failure", which the `faults hs-*` cases observe for every k (a failed operation followed by a
successful return is reported as `fault-swallowed`). -/
theorem handshake_entry_closes_on_error : Facts.handshakeEntryClosesOnError = true := by decide

end SourceShape
