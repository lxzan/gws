import Gws.Generated.Trans
import Gws.Model.Limited
/-!
# T3 — `limitedReader.Read` (compress.go), translated from the source on every run, is the per-read step of the
model's bounded copy `Limited.copy` (C13: the inflated size is limited while it is being produced).
-/
namespace TransEquiv

/-- one `Read` through the limited reader: the counter grows by what the source delivered, and the error is replaced by
`CloseMessageTooLarge` exactly when the counter has passed the limit -/
theorem limitedReader_Read_eq (p : Bytes) (N M k : Nat) (e : Option GoErr) :
    Trans.limitedReader_Read p (c_N := (N : Int)) (c_M := (M : Int)) (srcRead := ((k : Int), e))
      = (((N + k : Nat) : Int), (k : Int), if N + k > M then some (GoErr.status 1009) else e) := by
  unfold Trans.limitedReader_Read
  by_cases h : N + k > M
  · have : ((N : Int) + (k : Int) > (M : Int)) := by omega
    simp [h, this]
  · have : ¬ ((N : Int) + (k : Int) > (M : Int)) := by omega
    simp [h, this]

def errOfStatus : Limited.Status → Option GoErr
  | .more => none
  | .eof => some (.named "io.EOF")
  | .fail => some .io

/-- the first iteration of `Limited.copy` decides `tooLarge` exactly when the translated `Read` returns
`CloseMessageTooLarge`, and otherwise hands on the counter the translated `Read` stored -/
theorem copy_step_eq (M k n w : Nat) (st : Limited.Status) (rest : List (Nat × Limited.Status)) (p : Bytes) :
    Limited.copy M ((k, st) :: rest) n w =
      (if (Trans.limitedReader_Read p (c_N := (n : Int)) (c_M := (M : Int)) (srcRead := ((k : Int), errOfStatus st))).2.2 = some (GoErr.status 1009)
        then (w + k, .tooLarge)
        else match st with
          | .more => Limited.copy M rest (n + k) (w + k)
          | .eof => (w + k, .ok)
          | .fail => (w + k, .fail)) := by
  rw [limitedReader_Read_eq]
  conv => lhs; unfold Limited.copy
  by_cases h : n + k > M
  · simp [h]
  · cases st <;> simp [h, errOfStatus]

example : Trans.limitedReader_Read [] (c_N := 100) (c_M := 128) (srcRead := (29, none)) = (129, 29, some (.status 1009)) := by decide
example : Trans.limitedReader_Read [] (c_N := 100) (c_M := 128) (srcRead := (28, none)) = (128, 28, none) := by decide

end TransEquiv
