import Gws.Lemmas.Handshake
/-!
# C10 — server handshake: upgrade exactly the valid, authorised requests

Statement (properties.jsonl): the server upgrades a request iff it is a GET with
Sec-WebSocket-Version 13, Upgrade: websocket and a Connection header containing the upgrade token
(any letter case), a non-empty key, the application's authorisation callback agrees and, when the
server lists subprotocols, one is shared with the client.  The 101 response then carries
Sec-WebSocket-Accept = base64(SHA-1(key + RFC GUID)), the first server-preferred common
subprotocol, a permessage-deflate extension only if the client offered it and the server enables it,
and configured extra headers that cannot override those fields; the resulting connection exposes
that subprotocol and the session values set during authorisation, shared with no other connection.
Otherwise no 101 is sent, an HTTP error is written, the transport is closed and no connection is
returned.

Remaining latitude, each with a witness theorem:
* `Upgrade` and `Sec-WebSocket-Version` are read from their first line only and compared as a whole
  (`get` in `upgrade_iff`; `upgrade_first_line_exact`).
* "any letter case" of `Upgrade: websocket` is Unicode simple case folding (`nonascii_fold_accepted`).
* "extra headers that cannot override those fields" holds for keys set through `http.Header`'s methods
  (`response_fields`); a key put into the map directly in another spelling yields an extra, empty line
  of a protected name (`noncanonical_config_key_emitted`).

Clauses covered by the tie only (suite `hs-server`): net/http's parsing of the request bytes; which
`Sec-WebSocket-Extensions` value is negotiated (input `ext`: the bytes of the value that C12's model
computes as a `List Char`; no lemma joins the two models, the link is
`SourceShape.extension_headers_from_this_handshake` and the tie); the session object is shared with
no other connection (object identity); the `Date` line of the error response.
-/

namespace Hs

open Sha1 (asc)

/-- **C10, decision.**  For every request, option set, authorisation result and negotiated
extension: the server accepts iff the callback agreed, the method is `GET`, the version is exactly
`13`, some `Connection` line has `upgrade` (any ASCII letter case, surrounding white space ignored)
among its comma-separated elements, the (first) `Upgrade` value is `websocket` up to case folding,
the key is not empty, and the server lists no sub-protocols or one of them is among the
comma-separated, trimmed elements of the client's `Sec-WebSocket-Protocol` lines. -/
theorem upgrade_iff (o : ServerOpt) (r : Request) (auth : Bool) (ext : Option Str) :
    (serverDecide o r auth ext).isAccept = true ↔
      (auth = true ∧ r.method = asc "GET" ∧ get r.header kVersion = asc "13" ∧
       HasToken (vals r.header kConnection) (asc "upgrade") ∧
       foldEq (get r.header kUpgrade) (asc "websocket") = true ∧
       get r.header kKey ≠ [] ∧
       (o.subProtocols = [] ∨ ∃ p, p ∈ o.subProtocols ∧ p ∈ offered (vals r.header kProtocol))) := by
  rw [isAccept_iff]
  unfold ChecksPass offeredProtocols
  rw [foldEq_13, containsToken_iff]
  simp only [and_assoc]

/-- **Limitation (first line, whole value).**  `Upgrade` is not treated as a list: `websocket` on a
second `Upgrade` line, or as the second element of one line, is refused (RFC 7230 6.7 defines
`Upgrade` as a comma-separated list; the property's statement says "Upgrade: websocket"). -/
theorem upgrade_first_line_exact :
    (serverDecide ⟨[], []⟩ (sampleRequest [asc "Upgrade"] [asc "h2c", asc "websocket"] []) true none).isAccept = false ∧
    (serverDecide ⟨[], []⟩ (sampleRequest [asc "Upgrade"] [asc "h2c, websocket"] []) true none).isAccept = false := by
  decide +kernel

/-- **Latitude ("any letter case" is Unicode folding).**  `Upgrade: websocKet` spelled with U+212A
KELVIN SIGN (bytes E2 84 AA) in place of `k` is accepted. -/
theorem nonascii_fold_accepted :
    (serverDecide ⟨[], []⟩
      (sampleRequest [asc "Upgrade"] [asc "websoc" ++ [0xE2, 0x84, 0xAA] ++ asc "et"] []) true none).isAccept = true := by
  decide +kernel

/-- **Limitation (configuration that bypasses `http.Header`'s methods).**  A key written into the
`ResponseHeader` map in the RFC's spelling `Sec-WebSocket-Protocol` — not Go's canonical form
`Sec-Websocket-Protocol` — survives `deleteProtectedHeaders`; `WithExtraHeader` then emits it with the
value `Get` finds under the canonical key, i.e. none.  The 101 response carries an empty
`Sec-WebSocket-Protocol:` line although no sub-protocol was negotiated (the configured value itself
is lost; it overrides nothing). -/
theorem noncanonical_config_key_emitted :
    serverDecide ⟨[], [(asc "Sec-WebSocket-Protocol", [asc "evil"])]⟩
      (sampleRequest [asc "Upgrade"] [asc "websocket"] []) true none
    = .accept [(kUpgrade, asc "websocket"), (kConnection, asc "Upgrade"),
               (kAccept, asc "s3pPLMBiTxaQ9kYGzzhZRbK+xOo="), (asc "Sec-WebSocket-Protocol", [])] [] := by
  rw [serverDecide, sampleRequest_key, sample_accept]; decide +kernel

/-- **C10, the 101 response.**  When the request is accepted, the header lines written after the
status line are, in this order: `Upgrade: websocket`, `Connection: Upgrade`, the extension line iff an
extension was negotiated, `Sec-WebSocket-Accept: base64(SHA-1(key ++ GUID))`, a
`Sec-WebSocket-Protocol` line iff the server lists sub-protocols, and then the extra lines.  The
sub-protocol sent (= the one the connection exposes, `sp`) is the FIRST entry of the server's list
that the client offered on any of its `Sec-WebSocket-Protocol` lines.  When the configured header was
filled through `http.Header`'s own methods (all keys canonical) no extra line bears one of the five
protected names, and every configured header of another name is sent with its first value. -/
theorem response_fields (o : ServerOpt) (r : Request) (auth : Bool) (ext : Option Str)
    (lines : List (Str × Str)) (sp : Str) (h : serverDecide o r auth ext = .accept lines sp) :
    ∃ extras : List (Str × Str),
      lines = [(kUpgrade, asc "websocket"), (kConnection, asc "Upgrade")]
              ++ optLine kExtensions ext
              ++ [(kAccept, Base64.encode (Sha1.sha1 (get r.header kKey ++ asc Facts.magicNumber)))]
              ++ (if o.subProtocols = [] then [] else [(kProtocol, sp)])
              ++ extras
      ∧ (if o.subProtocols = [] then sp = []
         else FirstCommon o.subProtocols (offered (vals r.header kProtocol)) sp)
      ∧ ((∀ e ∈ o.responseHeader, canon e.1 = e.1) →
          (∀ l ∈ extras, canon l.1 ∉ protectedNames) ∧
          (∀ e ∈ o.responseHeader, e.1 ∉ protectedNames →
            (e.1, (values o.responseHeader e.1).headD []) ∈ extras)) := by
  have hp : ChecksPass r auth := checksPass_of_isAccept (by rw [h]; rfl)
  rw [serverDecide_of_pass hp] at h
  split at h
  · cases h
  rename_i hn
  obtain ⟨rfl, rfl⟩ := Decision.accept.inj h
  refine ⟨extraLines o, rfl, ?_, ?_⟩
  · split <;> rename_i hs
    · rw [hs]; rfl
    · exact firstCommon_of_ne_nil (fun hi => hn ⟨hs, hi⟩)
  · intro hcanon
    constructor
    · intro l hl
      obtain ⟨e, he, rfl⟩ := List.mem_map.1 hl
      have := mem_deleteProtected.1 he
      rw [hcanon e this.1]
      exact this.2
    · intro e he hne
      refine List.mem_map.2 ⟨e, mem_deleteProtected.2 ⟨he, hne⟩, ?_⟩
      simp only [get, vals, hcanon e he, values_deleteProtected _ _ hne]

/-- **C10, accepted: what `UpgradeFromConn` does.**  The bytes written are the status line
`HTTP/1.1 101 Switching Protocols`, the lines of `response_fields` and an empty line; the transport
stays open; the returned connection exposes the sub-protocol that was sent and the session the
authorisation callback of THIS request worked on. -/
theorem accept_outcome (o : ServerOpt) (r : Request) (auth : Bool) (sess : Str) (ext : Option Str)
    (date : Str) (lines : List (Str × Str)) (sp : Str) (h : serverDecide o r auth ext = .accept lines sp) :
    upgradeFromConn o r auth sess ext date =
      { written := asc "HTTP/1.1 101 Switching Protocols\r\n" ++ renderLines lines ++ crlf,
        closed := false, conn := some ⟨sp, sess⟩, err := none } := by
  simp [upgradeFromConn, h, render101]

/-- **C10, refused.**  On every reject outcome the bytes written start with `HTTP/1.1 400` (so no 101
is sent), end with the error text, no connection is returned and the transport is closed. -/
theorem reject_no_101 (o : ServerOpt) (r : Request) (auth : Bool) (sess : Str) (ext : Option Str)
    (date : Str) (e : SErr) (h : serverDecide o r auth ext = .reject e) :
    asc "HTTP/1.1 400" <+: (upgradeFromConn o r auth sess ext date).written ∧
    ¬ asc "HTTP/1.1 101" <+: (upgradeFromConn o r auth sess ext date).written ∧
    e.text <:+ (upgradeFromConn o r auth sess ext date).written ∧
    (upgradeFromConn o r auth sess ext date).conn = none ∧
    (upgradeFromConn o r auth sess ext date).closed = true ∧
    (upgradeFromConn o r auth sess ext date).err = some e := by
  have hu : upgradeFromConn o r auth sess ext date =
      { written := writeErr date e, closed := true, conn := none, err := some e } := by
    simp [upgradeFromConn, h]
  rw [hu]
  have h400 : asc "HTTP/1.1 400" <+: writeErr date e := by
    unfold writeErr
    have : asc "HTTP/1.1 400 Bad Request\r\n" = asc "HTTP/1.1 400" ++ asc " Bad Request\r\n" := by
      -- `String.toList_ofList`: the kernel decodes `"…".toList` slowly (see `nego_literals`, Lemmas/Nego)
      unfold asc
      repeat rw [String.toList_ofList]
      rfl
    rw [this]
    simp only [List.append_assoc]
    exact List.prefix_append _ _
  refine ⟨h400, fun h101 => ?_, ?_, rfl, rfl, rfl⟩
  · exact absurd (List.prefix_of_prefix_length_le h101 h400 (by decide +kernel)) (by decide +kernel)
  · unfold writeErr
    exact List.suffix_append _ _

/-- **C10, exactly one of the two outcomes.**  Every call either accepts or refuses; a refused call
never returns a connection and an accepted one never closes the transport. -/
theorem outcome_dichotomy (o : ServerOpt) (r : Request) (auth : Bool) (sess : Str) (ext : Option Str)
    (date : Str) :
    ((serverDecide o r auth ext).isAccept = true ∧
      (upgradeFromConn o r auth sess ext date).closed = false ∧
      (upgradeFromConn o r auth sess ext date).conn ≠ none) ∨
    ((serverDecide o r auth ext).isAccept = false ∧
      (upgradeFromConn o r auth sess ext date).closed = true ∧
      (upgradeFromConn o r auth sess ext date).conn = none) := by
  unfold upgradeFromConn
  cases serverDecide o r auth ext <;> simp [Decision.isAccept]

-- non-vacuity: the RFC 6455 sample request is accepted with the RFC's accept value, the server's
-- preference decides the sub-protocol, protected names are removed from the extra headers
example :
    serverDecide ⟨[asc "chat", asc "mqtt"], [(asc "X-Served-By", [asc "gws"]), (asc "Upgrade", [asc "h2c"])]⟩
      (sampleRequest [asc "keep-alive, Upgrade"] [asc "WebSocket"] [asc "mqtt , chat"]) true
      (some (asc "permessage-deflate"))
    = .accept [(kUpgrade, asc "websocket"), (kConnection, asc "Upgrade"),
               (kExtensions, asc "permessage-deflate"),
               (kAccept, asc "s3pPLMBiTxaQ9kYGzzhZRbK+xOo="), (kProtocol, asc "chat"),
               (asc "X-Served-By", asc "gws")] (asc "chat") := by
  rw [serverDecide, sampleRequest_key, sample_accept]; decide +kernel
-- the token is found in any letter case, between spaces and tabs, on a later line; letters around it
-- do not count; a sub-protocol offered on a second line is seen
example : (serverDecide ⟨[], []⟩ (sampleRequest [asc "keep-alive", asc " \tuPgRaDe\t , x"] [asc "websocket"] []) true none).isAccept = true := by
  decide +kernel
example : serverDecide ⟨[], []⟩ (sampleRequest [asc "upgradex", asc "no-upgrade", asc "keep-alive, upgrades"] [asc "websocket"] []) true none
    = .reject .handshake := by decide +kernel
example : (serverDecide ⟨[asc "chat"], []⟩ (sampleRequest [asc "Upgrade"] [asc "websocket"] [asc "mqtt", asc "x, chat"]) true none).isAccept = true := by
  decide +kernel
-- every reject reason is reachable
example : serverDecide ⟨[], []⟩ (sampleRequest [asc "Upgrade"] [asc "websocket"] []) false none
    = .reject .unauthorized := by decide +kernel
example : serverDecide ⟨[], []⟩ { sampleRequest [asc "Upgrade"] [asc "websocket"] [] with method := asc "POST" } true none
    = .reject .handshake := by decide +kernel
example : serverDecide ⟨[], []⟩ { method := asc "GET", header := [(canon kVersion, [asc "8"])] } true none
    = .reject .version := by decide +kernel
example : serverDecide ⟨[asc "chat"], []⟩ (sampleRequest [asc "Upgrade"] [asc "websocket"] [asc "mqtt"]) true none
    = .reject .subprotocol := by decide +kernel
example : (upgradeFromConn ⟨[asc "chat"], []⟩ (sampleRequest [asc "Upgrade"] [asc "websocket"] []) true [] none (asc "D")).written
    = asc "HTTP/1.1 400 Bad Request\r\nDate: D\r\nContent-Length: 31\r\nContent-Type: text/plain; charset=utf-8\r\n\r\nsub-protocol negotiation failed" := by
  conv => rhs; rw [asc, String.toList_ofList]  -- the long literal, as in `reject_no_101`
  decide +kernel

end Hs
