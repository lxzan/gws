import Gws.Props.TransWriter
/-!
# T3 — the per-frame callback of `doWriteFile` (writefile.go), translated from the source on every run, equals `Writer.fileFrame`

`Trans.Conn_doWriteFile_frame` is the body of the closure `cb` up to the transport write: frame `index` of a streamed
message is a Continuation frame behind the first one, carries FIN exactly on the last (`eof`), is built by `genFrame` with
compression, broadcast and the UTF-8 check switched off, gets RSV1 on the first frame when compression is negotiated, and is
not written once the connection is closed. The call of `genFrame` is a function parameter of the translation; it is
instantiated with the translated `genFrame` itself (`genFrameT`), so the statement is about the two translated functions
together.
-/
set_option linter.unusedSimpArgs false   -- deliberate: arguments idle under today's translation serve when the Go code is re-spelled

namespace TransEquiv

def genFrameT (cfg : Writer.Cfg) (maskNum : UInt32) (opcode : UInt8) (p : Bytes) (fin compress broadcast checkEncoding : Bool) :
    Bytes × Option GoErr :=
  match Trans.Conn_genFrame GenOut.ret GenOut.compress opcode p (cfg_checkEncoding := checkEncoding)
      (c_config_WriteMaxPayloadSize := (cfg.writeMax : Int)) (cfg_compress := compress) (c_pd_Threshold := (cfg.threshold : Int))
      (cfg_fin := fin) (cfg_broadcast := broadcast) (c_isServer := cfg.isServer) (maskNum := maskNum) with
  | .ret r => r
  | .compress .. => ([], some (.named "compressData called"))     -- not reached with compress = false

def interpF : Except (Option GoErr) Bytes → Except Writer.WErr Bytes
  | .ok b => .ok b
  | .error (some (.named "ErrConnClosed")) => .error .connClosed
  | .error (some (.named "ErrTextEncoding")) => .error .textEncoding
  | .error (some (.named "ErrMessageTooLarge")) => .error .messageTooLarge
  | .error _ => .error (.panic "unexpected error value")

theorem genFrame_nocompress (cfg : Writer.Cfg) (maskNum : UInt32) (op : UInt8) (p : Bytes) (fin broadcast ce : Bool) :
    ∃ r, Trans.Conn_genFrame GenOut.ret GenOut.compress op p (cfg_checkEncoding := ce)
        (c_config_WriteMaxPayloadSize := (cfg.writeMax : Int)) (cfg_compress := false) (c_pd_Threshold := (cfg.threshold : Int))
        (cfg_fin := fin) (cfg_broadcast := broadcast) (c_isServer := cfg.isServer) (maskNum := maskNum) = GenOut.ret r
      ∧ (r.2 = none ∨ r.2 = some (.named "ErrTextEncoding") ∨ r.2 = some (.named "ErrMessageTooLarge")) := by
  unfold Trans.Conn_genFrame
  simp only [Bool.false_and, Bool.false_eq_true, if_false, ↓reduceIte]
  -- whatever the nesting of the checks: every leaf returns one of the three outcomes (the compressing branch is gone)
  repeat' split
  all_goals first
    | exact ⟨_, rfl, Or.inl rfl⟩
    | exact ⟨_, rfl, Or.inr (Or.inl rfl)⟩
    | exact ⟨_, rfl, Or.inr (Or.inr rfl)⟩
    | (exfalso; simp_all; done)

private theorem setRsv1_eq (frame : Bytes) : frame.set 0 (goIdx frame 0 ||| 64) = Writer.setRsv1 frame := by
  cases frame <;> rfl

/-- the callback of `doWriteFile` = `Writer.fileFrame`, for every frame index, chunk, opcode and key -/
theorem doWriteFile_frame_eq (cfg : Writer.Cfg) (codec : Codec) (closed : Bool) (opcode : UInt8) (index : Nat) (eof : Bool)
    (p : Bytes) (maskNum : UInt32) (hlen : p.length < 2 ^ 62) :
    interpF (Trans.Conn_doWriteFile_frame (c_pd_Enabled := cfg.pdEnabled) (c_genFrame := genFrameT cfg maskNum) (closed := closed)
        (eof := eof) (index := (index : Int)) (opcode := opcode) (p := p))
      = Writer.fileFrame cfg codec closed opcode.toNat index eof p (goBytesU32LE maskNum) := by
  have hfl : [p].flatten = p := by simp
  have hop : ∃ op : UInt8, (if decide ((index : Int) > 0) then (0 : UInt8) else opcode) = op
      ∧ (if index > 0 then Facts.opContinuation else opcode.toNat) = op.toNat := by
    by_cases hi : index > 0
    · have : (index : Int) > 0 := by omega
      exact ⟨0, by rw [decide_eq_true this]; rfl, by rw [if_pos hi]; rfl⟩
    · have : ¬ (index : Int) > 0 := by omega
      exact ⟨opcode, by rw [decide_eq_false this]; rfl, by rw [if_neg hi]⟩
  obtain ⟨op, hop1, hop2⟩ := hop
  have hidx : ((index : Int) == 0) = decide (index = 0) := by
    by_cases hi : index = 0
    · subst hi; rfl
    · have : ¬ (index : Int) = 0 := by omega
      simp [hi, this]
  have h := genFrame_eq cfg codec Win.disabled op [p]
    { fin := eof, compress := false, broadcast := false, checkEncoding := false } maskNum (by rw [hfl]; exact hlen)
  obtain ⟨r, hr, hcases⟩ := genFrame_nocompress cfg maskNum op p eof false false
  have hT : genFrameT cfg maskNum op p eof false false false = r := by
    unfold genFrameT; rw [hr]
  simp only [hfl] at h
  rw [hr] at h
  unfold Trans.Conn_doWriteFile_frame Writer.fileFrame
  simp only [hop1, hop2, hT, ← h, hidx, setRsv1_eq]
  obtain ⟨b, e⟩ := r
  simp only at hcases
  rcases hcases with he | he | he <;> subst he
  · cases closed <;> cases hp : cfg.pdEnabled <;> by_cases hi : index = 0 <;>
      simp [interpW, interpF, hp, hi]
  · simp [interpW, interpF]
  · simp [interpW, interpF]

private def exCfg : Writer.Cfg :=
  { isServer := true, pdEnabled := true, threshold := 512, bits := 12, writeMax := 1024, checkUtf8 := false }

/-- frame 0, not the last: opcode 2 with RSV1 (bit 64) set, FIN clear -/
example : Trans.Conn_doWriteFile_frame (c_pd_Enabled := true) (c_genFrame := genFrameT exCfg 0) (closed := false) (eof := false)
    (index := 0) (opcode := 2) (p := [1, 2, 3]) = .ok [66, 3, 1, 2, 3] := by decide +kernel

/-- frame 1, the last: opcode 0 (Continuation) with FIN, no RSV1 -/
example : Trans.Conn_doWriteFile_frame (c_pd_Enabled := true) (c_genFrame := genFrameT exCfg 0) (closed := false) (eof := true)
    (index := 1) (opcode := 2) (p := [1, 2, 3]) = .ok [128, 3, 1, 2, 3] := by decide +kernel

/-- a closed connection, and a chunk above `WriteMaxPayloadSize` -/
example : interpF (Trans.Conn_doWriteFile_frame (c_pd_Enabled := true) (c_genFrame := genFrameT exCfg 0) (closed := true) (eof := true)
    (index := 1) (opcode := 2) (p := [1, 2, 3])) = .error .connClosed := by rfl
example : interpF (Trans.Conn_doWriteFile_frame (c_pd_Enabled := true) (c_genFrame := genFrameT { exCfg with writeMax := 2 } 0)
    (closed := false) (eof := true) (index := 1) (opcode := 2) (p := [1, 2, 3])) = .error .messageTooLarge := by rfl

end TransEquiv
