import Gws.Props.TransHandshake
/-!
# T3 — `doUpgradeFromConn` as the sequence of its translated pieces equals the model's `Hs.serverDecide`

The server's decision procedure is, statement by statement: the authorisation callback (its result is an input), the
four request checks, `responseWriter.Init`, the extension line when compression was negotiated (the header value is an
input: its computation is C12's subject), the key check and the accept line, `WithSubProtocol`, `WithExtraHeader` (a loop
over a Go map, whose order is unspecified: taken from the model), and `responseWriter.Write`'s test of the recorded
error.  Every other piece is translated from the source; `serverDecideT` puts them in the order of the Go function and
only the hand-over of the writer's fields between the pieces is written by hand.
-/
namespace TransEquiv

open Hs
open Sha1 (asc)

/-- what the composed procedure yields: the bytes of the response before the final blank line and the sub-protocol, or
the error it returns -/
inductive DecisionT where
  | accept (headerBytes : Bytes) (subprotocol : Str)
  | reject (e : Option GoErr)
deriving DecidableEq

/-- `doUpgradeFromConn`, assembled from its translated pieces in the order of the Go function.  The `.error` branch of
`Init` answers the `Except` type the translator gives the piece and is never taken (`Init_eq`). -/
def serverDecideT (o : ServerOpt) (r : Request) (auth : Bool) (ext : Option Str) : DecisionT :=
  if auth = false then .reject (errOfSErr .unauthorized) else
  match Trans.Upgrader_requestChecks (r_Header := r.header) (r_Method := r.method) with
  | .error (_, e) => .reject e
  | .ok _ =>
    match Trans.responseWriter_Init [] with
    | .error _ => .reject none
    | .ok b0 =>
      let b1 := match ext with
        | some v => Trans.responseWriter_WithHeader kExtensions v b0
        | none => b0
      match Trans.Upgrader_keyAndAccept (r_Header := r.header) (rw_b := b1) with
      | .error (_, _, e) => .reject e
      | .ok b2 =>
        let w := Trans.responseWriter_WithSubProtocol r.header o.subProtocols (c_b := b2) (c_err := none) (c_subprotocol := asc "")
        -- WithExtraHeader (loop over a Go map): the model's lines, rendered
        let b4 := w.1 ++ renderLines ((deleteProtectedHeaders o.responseHeader).map (fun e => (e.1, get (deleteProtectedHeaders o.responseHeader) e.1)))
        -- responseWriter.Write: `if c.err != nil { return c.err }`
        match w.2.1 with
        | some e => .reject (some e)
        | none => .accept b4 w.2.2

def viewDecision : Decision → DecisionT
  | .accept ls sp => .accept (asc "HTTP/1.1 101 Switching Protocols\r\n" ++ renderLines ls) sp
  | .reject e => .reject (errOfSErr e)

private theorem renderLines_append (a b : List (Str × Str)) :
    renderLines (a ++ b) = renderLines a ++ renderLines b := by
  simp [renderLines, List.flatMap_append]

private theorem Init_eq :
    Trans.responseWriter_Init [] = .ok (asc "HTTP/1.1 101 Switching Protocols\r\n" ++ renderLines RW.init.lines) := by
  have h : renderLines RW.init.lines = asc "Upgrade: websocket\r\n" ++ asc "Connection: Upgrade\r\n" := by
    -- `String.toList_ofList`: the kernel decodes `"…".toList` slowly (see `nego_literals`, Lemmas/Nego)
    unfold RW.init kUpgrade kConnection asc
    repeat rw [String.toList_ofList]
    decide +kernel
  -- `rw`: `simp only` uses `List.nil_append` without a proof step, and the kernel evaluates the status line to see it
  rw [h, Trans.responseWriter_Init, List.nil_append, List.append_assoc]

/-- everything after the key check, for the model's writer at that point -/
private theorem tail_eq (o : ServerOpt) (r : Request) (rw : RW) (he : rw.err = none) (hs : rw.subprotocol = []) :
    (let w := Trans.responseWriter_WithSubProtocol r.header o.subProtocols
        (c_b := asc "HTTP/1.1 101 Switching Protocols\r\n" ++ renderLines rw.lines) (c_err := none) (c_subprotocol := asc "")
     let b4 := w.1 ++ renderLines ((deleteProtectedHeaders o.responseHeader).map (fun e => (e.1, get (deleteProtectedHeaders o.responseHeader) e.1)))
     match w.2.1 with
     | some e => DecisionT.reject (some e)
     | none => DecisionT.accept b4 w.2.2) =
    viewDecision
      (match ((rw.withSubProtocol r.header o.subProtocols).withExtraHeader (deleteProtectedHeaders o.responseHeader)).err with
       | some e => .reject e
       | none => .accept ((rw.withSubProtocol r.header o.subProtocols).withExtraHeader (deleteProtectedHeaders o.responseHeader)).lines
                   ((rw.withSubProtocol r.header o.subProtocols).withExtraHeader (deleteProtectedHeaders o.responseHeader)).subprotocol) := by
  have h := WithSubProtocol_eq rw r.header o.subProtocols (asc "HTTP/1.1 101 Switching Protocols\r\n")
  rw [he, hs] at h
  simp only [Option.bind_none] at h
  rw [asc_empty, h]
  simp only [RW.withExtraHeader]
  cases hq : (rw.withSubProtocol r.header o.subProtocols).err with
  | none => simp [viewDecision, renderLines_append, List.append_assoc]
  | some e => cases e <;> simp [viewDecision, errOfSErr]

/-- the composition of the translated pieces of `doUpgradeFromConn` is `Hs.serverDecide` -/
theorem serverDecide_eq_translated (o : ServerOpt) (r : Request) (auth : Bool) (ext : Option Str) :
    serverDecideT o r auth ext = viewDecision (serverDecide o r auth ext) := by
  unfold serverDecideT serverDecide
  cases auth
  · simp [viewDecision]
  rw [requestChecks_eq, Init_eq]
  unfold requestChecks
  by_cases h1 : r.method ≠ asc "GET"
  · simp [h1, viewDecision]
  by_cases h2 : foldEq (get r.header kVersion) (asc "13") = false
  · simp [h1, h2, viewDecision]
  by_cases h3 : httpHeaderContainsToken (vals r.header kConnection) (asc "Upgrade") = false
  · simp [h1, h2, h3, viewDecision]
  by_cases h4 : foldEq (get r.header kUpgrade) (asc "websocket") = false
  · simp [h1, h2, h3, h4, viewDecision]
  simp only [h1, h2, h3, h4, ↓reduceIte, Bool.true_eq_false]
  cases ext with
  | none =>
    simp only [keyAndAccept_eq]
    by_cases hk : get r.header kKey = []
    · simp [hk, viewDecision]
    · simp only [hk, ↓reduceIte, List.append_assoc, ← renderLines_append]
      exact tail_eq o r (RW.init.withHeader kAccept (acceptKey (get r.header kKey))) rfl rfl
  | some v =>
    simp only [keyAndAccept_eq, WithHeader_eq]
    by_cases hk : get r.header kKey = []
    · simp [hk, viewDecision]
    · simp only [hk, ↓reduceIte, List.append_assoc, ← renderLines_append]
      -- nest the lines as the writer builds them, `(init ++ [ext]) ++ [accept]`: otherwise the kernel compares the two
      -- nestings by evaluating both lists
      rw [← List.append_assoc]
      exact tail_eq o r ((RW.init.withHeader kExtensions v).withHeader kAccept (acceptKey (get r.header kKey))) rfl rfl

end TransEquiv
