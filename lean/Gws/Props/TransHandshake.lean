import Gws.Generated.Trans
import Gws.Lemmas.Trans  -- nothing here uses it: it stays among what the C10/C11 checks rebuild (tools/registry.py)
import Gws.Model.Handshake
/-!
# T3 — the handshake decision code (client.go, upgrader.go, internal/utils.go), translated from the source on every
run, equals the model functions C10 / C11 are proved about

Strings are their bytes (`Hs.Str`); the Go library functions the code calls — `http.Header.Get/Values`,
`strings.EqualFold`, `strings.Join`, `internal.Split(·, ",")`, `ComputeAcceptKey` — appear in the translation as the
model's `Hs.get` / `Hs.vals`, `Hs.foldEq`, `Hs.joinComma`, `Hs.split`, `Hs.acceptKey` (their reading is part of the
trusted base and sampled by the hs-server / hs-client suites); what the theorems below tie to the source is everything
gws itself decides: which header is read with `Get` and which with `Values`, which comparison is case-insensitive, the
order of the checks and which error each one returns, the loops of `HttpHeaderContainsToken` / `GetIntersectionElem`,
and the lines the response writer appends.
-/
namespace TransEquiv

open Hs
open Sha1 (asc)

theorem asc_empty : asc "" = [] := by decide
private theorem crlf_def : asc "\r\n" = crlf := by decide
private theorem kConnection_def : kConnection = asc "Connection" := rfl
private theorem kUpgrade_def : kUpgrade = asc "Upgrade" := rfl
private theorem kAccept_def : kAccept = asc "Sec-WebSocket-Accept" := rfl
private theorem kVersion_def : kVersion = asc "Sec-WebSocket-Version" := rfl
private theorem kKey_def : kKey = asc "Sec-WebSocket-Key" := rfl
private theorem kProtocol_def : kProtocol = asc "Sec-WebSocket-Protocol" := rfl

/-- a Go range loop that returns `true` at the first hit -/
private theorem foldr_any {α : Type} (p : α → Bool) (init : Bool) (l : List α) :
    List.foldr (fun item acc' => if p item then true else acc') init l = (l.any p || init) := by
  induction l with
  | nil => simp
  | cons x xs ih =>
    simp only [List.foldr_cons, ih, List.any_cons]
    cases p x <;> simp

theorem InCollection_eq (elem : Str) (elems : List Str) :
    Trans.internal_InCollection elem elems = decide (elem ∈ elems) := by
  unfold Trans.internal_InCollection
  rw [foldr_any]
  simp [List.any_beq', List.contains_eq_mem]

theorem GetIntersectionElem_eq (a b : List Str) : Trans.internal_GetIntersectionElem a b = intersectionElem a b := by
  unfold Trans.internal_GetIntersectionElem intersectionElem
  simp only [InCollection_eq, asc_empty]
  induction a with
  | nil => simp
  | cons x xs ih =>
    simp only [List.foldr_cons, ih, List.find?_cons]
    by_cases h : x ∈ b <;> simp [h]

theorem HttpHeaderContainsToken_eq (lines : List Str) (token : Str) :
    Trans.internal_HttpHeaderContainsToken lines token = httpHeaderContainsToken lines token := by
  unfold Trans.internal_HttpHeaderContainsToken httpHeaderContainsToken
  simp only [foldr_any]
  induction lines with
  | nil => simp
  | cons l ls ih =>
    simp only [List.foldr_cons, ih, List.any_cons]

/-- The translator names a package-level error by its identifier, an `errors.New(text)` by its text and a
`fmt.Errorf(format, args…)` by the format followed by `|` and the source text of each argument: a changed error text in
client.go / upgrader.go changes these strings -/
def errOfCErr : CErr → Option GoErr
  | .status => some (.named "unexpected status code: %d|resp.StatusCode")
  | .connection => some (.named "missing %s header|internal.Connection.Key")
  | .upgrade => some (.named "missing %s header|internal.Upgrade.Key")
  | .accept => some (.named "invalid %s header|internal.SecWebSocketAccept.Key")
  | .subprotocol => some (.named "ErrSubprotocolNegotiation")

/-- `connector.checkHeaders` (the whole function) = `Hs.checkHeaders` -/
theorem checkHeaders_eq (key : Str) (resp : Resp) :
    Trans.connector_checkHeaders (resp_StatusCode := (resp.status : Int)) (resp_Header := resp.header) (c_secWebsocketKey := key)
      = (checkHeaders key resp).bind errOfCErr := by
  unfold Trans.connector_checkHeaders checkHeaders
  rw [HttpHeaderContainsToken_eq]
  simp only [kConnection_def, kUpgrade_def, kAccept_def]
  by_cases h1 : resp.status = 101
  · by_cases h2 : httpHeaderContainsToken (vals resp.header (asc "Connection")) (asc "Upgrade") = false
    · simp [h1, h2, errOfCErr]
    · by_cases h3 : foldEq (get resp.header (asc "Upgrade")) (asc "websocket") = false
      · simp [h1, h2, h3, errOfCErr]
      · by_cases h4 : get resp.header (asc "Sec-WebSocket-Accept") = acceptKey key
        · simp [h1, h2, h3, h4]
        · simp [h1, h2, h3, h4, errOfCErr]
  · have : ¬ ((resp.status : Int) = 101) := by omega
    simp [h1, this, errOfCErr]

/-- `connector.getSubProtocol` (the whole function) = `Hs.getSubProtocol` -/
theorem getSubProtocol_eq (o : ClientOpt) (resp : Resp) :
    Trans.connector_getSubProtocol o.requestHeader resp.header =
      (match getSubProtocol o resp with
       | .ok sp => (sp, none)
       | .error e => (asc "", errOfCErr e)) := by
  unfold Trans.connector_getSubProtocol getSubProtocol
  simp only [GetIntersectionElem_eq, ← kProtocol_def, asc_empty]
  by_cases h1 : split (get o.requestHeader kProtocol) = []
  · simp [h1]
  · have hl : 0 < (split (get o.requestHeader kProtocol)).length := List.length_pos_iff.2 h1
    by_cases h2 : intersectionElem (split (get o.requestHeader kProtocol)) (split (get resp.header kProtocol)) = []
    · simp [h1, h2, hl, errOfCErr]
    · simp [h1, h2, hl]

/-- the fixed fields of the upgrade request and the key: on top of the configured headers the client sets `Connection`,
`Upgrade`, `Sec-WebSocket-Version`, the extension offer when compression is enabled, and a `Sec-WebSocket-Key` that is the
base64 form of 16 bytes drawn from the PRNG (two 64-bit draws, big-endian) — `Hs.requestHeader` — and that key has the 24
characters of a 16-byte value.  This is the branch `if c.secWebsocketKey == ""` of `connector.request`, which every
connector takes on its one call (the field is set nowhere else); `Hs.requestHeader` models that branch only. -/
theorem request_headers_eq (o : ClientOpt) (enabled : Bool) (offer : Str) (rnd rnd2 : UInt64) :
    Trans.connector_request_headers (c_option_PermessageDeflate_Enabled := enabled) (c_secWebsocketKey := asc "")
        (r_Header := o.requestHeader) (offer := offer) (rnd := rnd) (rnd_2 := rnd2)
      = .ok (Base64.encode (goBytesU64BE rnd ++ goBytesU64BE rnd2),
             requestHeader o (Base64.encode (goBytesU64BE rnd ++ goBytesU64BE rnd2)) (if enabled then some offer else none))
    ∧ (Base64.encode (goBytesU64BE rnd ++ goBytesU64BE rnd2)).length = 24 := by
  constructor
  · unfold Trans.connector_request_headers requestHeader
    have hk : (goCopy (goCopy (List.replicate 16 (0 : UInt8)) ((0 : Int)).toNat (goBytesU64BE rnd)) ((8 : Int)).toNat (goBytesU64BE rnd2)).drop ((0 : Int)).toNat
        = goBytesU64BE rnd ++ goBytesU64BE rnd2 := by
      simp [goCopy, goBytesU64BE]
    have he : (asc "" == asc "") = true := by decide
    simp only [he, hk, ↓reduceIte]
    cases enabled <;> simp [kConnection, kUpgrade, kVersion, kExtensions, kKey]
  · simp [goBytesU64BE, Base64.encode]

/-- the client's handshake after the response was parsed, as the sequence of its two translated functions (`handshake()` calls
`checkHeaders` and, when that passes, `getSubProtocol`) -/
def clientHandshakeT (o : ClientOpt) (key : Str) (resp : Resp) : Str × Option GoErr :=
  match Trans.connector_checkHeaders (c_secWebsocketKey := key) (resp_Header := resp.header) (resp_StatusCode := (resp.status : Int)) with
  | some e => (asc "", some e)
  | none => Trans.connector_getSubProtocol (c_option_RequestHeader := o.requestHeader) (resp_Header := resp.header)

/-- … is the model's `Hs.clientHandshake`: the client returns a connection (with that sub-protocol) exactly when the model
accepts, and otherwise the model's error -/
theorem clientHandshake_eq_translated (o : ClientOpt) (key : Str) (resp : Resp) :
    clientHandshakeT o key resp =
      (match clientHandshake o key resp with
       | .ok sp => (sp, none)
       | .error e => (asc "", errOfCErr e)) := by
  unfold clientHandshakeT clientHandshake
  rw [checkHeaders_eq, getSubProtocol_eq]
  cases h : checkHeaders key resp with
  | none => simp
  | some e => cases e <;> simp [errOfCErr]

/-- `ServerOption.deleteProtectedHeaders` is the model's chain of five `Del` (which entries go: `Hs.mem_deleteProtected`) -/
theorem deleteProtectedHeaders_eq (h : Header) :
    Trans.ServerOption_deleteProtectedHeaders h = deleteProtectedHeaders h := rfl

/-- named as in `errOfCErr` -/
def errOfSErr : SErr → Option GoErr
  | .unauthorized => some (.named "ErrUnauthorized")
  | .handshake => some (.named "ErrHandshake")
  | .version => some (.named "gws: websocket version not supported")
  | .subprotocol => some (.named "ErrSubprotocolNegotiation")

/-- the four request checks of `doUpgradeFromConn`, in the code's order, as `Hs.serverDecide` performs them -/
def requestChecks (r : Request) : Option SErr :=
  if r.method ≠ asc "GET" then some .handshake else
  if foldEq (get r.header kVersion) (asc "13") = false then some .version else
  if httpHeaderContainsToken (vals r.header kConnection) (asc "Upgrade") = false then some .handshake else
  if foldEq (get r.header kUpgrade) (asc "websocket") = false then some .handshake else none

theorem requestChecks_eq (r : Request) :
    Trans.Upgrader_requestChecks (r_Method := r.method) (r_Header := r.header) =
      (match requestChecks r with
       | some e => .error ((), errOfSErr e)
       | none => .ok ()) := by
  unfold Trans.Upgrader_requestChecks requestChecks
  rw [HttpHeaderContainsToken_eq]
  simp only [kConnection_def, kUpgrade_def, kVersion_def]
  by_cases h1 : r.method = asc "GET"
  · by_cases h2 : foldEq (get r.header (asc "Sec-WebSocket-Version")) (asc "13") = false
    · simp [h1, h2, errOfSErr]
    · by_cases h3 : httpHeaderContainsToken (vals r.header (asc "Connection")) (asc "Upgrade") = false
      · simp [h1, h2, h3, errOfSErr]
      · by_cases h4 : foldEq (get r.header (asc "Upgrade")) (asc "websocket") = false
        · simp [h1, h2, h3, h4, errOfSErr]
        · simp [h1, h2, h3, h4]
  · simp [h1, errOfSErr]

/-- `requestChecks` is what `serverDecide` does between the authorisation and the response writer -/
theorem serverDecide_requestChecks (o : ServerOpt) (r : Request) (ext : Option Str) (e : SErr) (h : requestChecks r = some e) :
    serverDecide o r true ext = .reject e := by
  unfold requestChecks at h
  unfold serverDecide
  by_cases h1 : r.method ≠ asc "GET"
  · simp [h1] at h ⊢; rw [h]
  by_cases h2 : foldEq (get r.header kVersion) (asc "13") = false
  · simp [h1, h2] at h ⊢; rw [h]
  by_cases h3 : httpHeaderContainsToken (vals r.header kConnection) (asc "Upgrade") = false
  · simp [h1, h2, h3] at h ⊢; rw [h]
  by_cases h4 : foldEq (get r.header kUpgrade) (asc "websocket") = false
  · simp [h1, h2, h3, h4] at h ⊢; rw [h]
  simp [h1, h2, h3, h4] at h

theorem WithHeader_eq (k v : Str) (b : Bytes) : Trans.responseWriter_WithHeader k v b = b ++ renderLines [(k, v)] := by
  unfold Trans.responseWriter_WithHeader renderLines
  simp [crlf, crlf_def, List.append_assoc]

theorem keyAndAccept_eq (h : Header) (b : Bytes) :
    Trans.Upgrader_keyAndAccept h b =
      (if get h kKey = [] then .error (b, (), errOfSErr .handshake)
       else .ok (b ++ renderLines [(kAccept, acceptKey (get h kKey))])) := by
  unfold Trans.Upgrader_keyAndAccept
  simp only [WithHeader_eq, ← kKey_def, ← kAccept_def, asc_empty]
  by_cases h1 : get h kKey = []
  · simp [h1, errOfSErr]
  · simp [h1]

/-- `responseWriter.WithSubProtocol` = `RW.withSubProtocol`, the buffer holding the rendered lines behind any prefix -/
theorem WithSubProtocol_eq (rw : RW) (requestHeader : Header) (expected : List Str) (pre : Bytes) :
    Trans.responseWriter_WithSubProtocol requestHeader expected (c_subprotocol := rw.subprotocol) (c_err := rw.err.bind errOfSErr)
        (c_b := pre ++ renderLines rw.lines) =
      (pre ++ renderLines (rw.withSubProtocol requestHeader expected).lines,
       (rw.withSubProtocol requestHeader expected).err.bind errOfSErr,
       (rw.withSubProtocol requestHeader expected).subprotocol) := by
  unfold Trans.responseWriter_WithSubProtocol RW.withSubProtocol
  simp only [GetIntersectionElem_eq, WithHeader_eq, ← kProtocol_def, asc_empty]
  by_cases h1 : expected = []
  · simp [h1]
  · have hl : 0 < expected.length := List.length_pos_iff.2 h1
    by_cases h2 : intersectionElem expected (split (joinComma (vals requestHeader kProtocol))) = []
    · simp [h1, h2, hl, errOfSErr]
    · simp [h1, h2, hl, RW.withHeader, renderLines, List.append_assoc]

end TransEquiv
