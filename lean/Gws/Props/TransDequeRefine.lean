import Gws.Props.TransDequeOps
import Gws.Props.C20
/-!
# C20 stated of the translated internal/deque.go

The run of `Deque.ops_refine` (Gws/Props/C20.lean), executed by the functions **translated from the Go source on this
run** (`Gws/Generated/TransDeque.lean`): `TInst.step` is `MInst.step` with every operation of the API replaced by its
translation. `Range` and `Clone`, which the dialect does not translate, stay the model's, and so does the observation of
the result (`observe`; `Len`, `Front`, `Back` have their ties in `TransDequeCore`). The runs coincide (`TState.run_eq`).
-/
namespace TransEquiv.Dq
open Deque TransDeque

def TInst.step (x : MInst) (n : Nat) : Op → Option (MInst × List Nat)
  | .pushBack v => (Deque_PushBack x.d v).bind (x.created n)
  | .pushFront v => (Deque_PushFront x.d v).bind (x.created n)
  | .popFront => (Deque_PopFront x.d).map fun r => ({ x with d := r.1 }, [r.2])
  | .popBack => (Deque_PopBack x.d).map fun r => ({ x with d := r.1 }, [r.2])
  | .insertAfter v id => (Deque_InsertAfter x.d v (x.m id)).bind (x.created n)
  | .insertBefore v id => (Deque_InsertBefore x.d v (x.m id)).bind (x.created n)
  | .moveToFront id => (Deque_MoveToFront x.d (x.m id)).map fun d => ({ x with d := d }, [])
  | .moveToBack id => (Deque_MoveToBack x.d (x.m id)).map fun d => ({ x with d := d }, [])
  | .update id v => (Deque_Update x.d (x.m id) v).map fun d => ({ x with d := d }, [])
  | .remove id => (Deque_Remove x.d (x.m id)).map fun d => ({ x with d := d }, [])
  | .reset => (Deque_Reset x.d).map fun d => ({ x with d := d }, [])
  | .range k => (x.d.range (takeCb k) ([], 0)).map fun r => (x, r.1)
  | .clone => none
  | .use _ => none

theorem TInst.step_eq (x : MInst) (n : Nat) (op : Op) : TInst.step x n op = x.step n op := by
  cases op <;>
    simp [TInst.step, MInst.step, PushBack_eq, PushFront_eq, PopFront_eq, PopBack_eq, InsertAfter_eq, InsertBefore_eq,
      MoveToFront_eq, MoveToBack_eq, Update_eq, Remove_eq, Reset_eq]

/-- `MState.stepCur` / `step` / `run` over the translated operations -/
def TState.stepCur (st : MState) (op : Op) : Option (MState × Obs) :=
  match st.insts[st.cur]? with
  | none => none
  | some x =>
    match TInst.step x st.next op with
    | none => none
    | some (x', ret) =>
      (observe x'.d ret).map fun o =>
        ({ insts := st.insts.set st.cur x', cur := st.cur,
           next := st.next + (if op.creates then 1 else 0) }, o)

def TState.step (st : MState) : Op → Option (MState × Obs)
  | .clone =>
    match st.insts[st.cur]? with
    | none => none
    | some x =>
      (observe x.d []).map fun o => ({ st with insts := st.insts ++ [{ d := x.d.clone, m := x.m }] }, o)
  | .use k =>
    match st.insts[k]? with
    | none => none
    | some x => (observe x.d []).map fun o => ({ st with cur := k }, o)
  | op => TState.stepCur st op

def TState.run : MState → List Op → Option (List Obs)
  | _, [] => some []
  | st, op :: ops =>
    match TState.step st op with
    | none => none
    | some (st', o) => (TState.run st' ops).map (o :: ·)

theorem TState.stepCur_eq (st : MState) (op : Op) : TState.stepCur st op = st.stepCur op := by
  unfold TState.stepCur MState.stepCur
  cases st.insts[st.cur]? with
  | none => rfl
  | some x =>
    simp only [TInst.step_eq]
    cases x.step st.next op with
    | none => rfl
    | some r => cases r; rfl

theorem TState.step_eq (st : MState) (op : Op) : TState.step st op = st.step op := by
  cases op with
  | clone | use => rfl
  | _ => exact TState.stepCur_eq st _

theorem TState.run_eq (st : MState) (ops : List Op) : TState.run st ops = st.run ops := by
  induction ops generalizing st with
  | nil => rfl
  | cons op ops ih =>
    simp only [TState.run, MState.run, TState.step_eq]
    cases st.step op with
    | none => rfl
    | some r => simp [ih]

/-- **C20 of the translated code**: whatever sequence of operations the list reference accepts (it rejects only an id that
is not live and an instance that does not exist) is executed with the translated functions from a well-formed empty deque
(e.g. the zero value), every call returns — no panic — and every observation (returned values, `Len`, the values in
`Range` order, `Front`, `Back`) is the one of a plain list. -/
theorem translated_ops_refine (d : Deque) (h : WF d []) (ops : List Op) (obs : List Obs)
    (hs : SState.init.run ops = some obs) : TState.run (MState.init d) ops = some obs := by
  rw [TState.run_eq]; exact ops_refine d h ops obs hs

theorem translated_ops_refine_zero (ops : List Op) (obs : List Obs) (hs : SState.init.run ops = some obs) :
    TState.run (MState.init zero) ops = some obs :=
  translated_ops_refine zero wf_zero ops obs hs

-- the same operations through the translated code and on the plain list
example : (TState.run (MState.init zero) [.pushBack 7, .pushFront 6, .moveToBack 1, .popFront, .reset, .pushBack 9]).map (·.map (·.seq))
    = some [[7], [6, 7], [7, 6], [6], [], [9]] := by decide +kernel
example : (SState.init.run [.pushBack 7, .pushFront 6, .moveToBack 1, .popFront, .reset, .pushBack 9]).map (·.map (·.seq))
    = some [[7], [6, 7], [7, 6], [6], [], [9]] := by decide +kernel

end TransEquiv.Dq
