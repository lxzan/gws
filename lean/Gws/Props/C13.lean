import Gws.Props.C03
/-!
# C13 — the read size limit on frames, fragment sums and inflated size

Statement: no message larger than `ReadMaxPayloadSize` is ever delivered — neither as one frame,
nor as a sum of fragments, nor after inflation; a frame or fragment sequence whose wire size
exceeds the limit fails the connection with status exactly 1009 as soon as the sizes reveal it; a
compressed message that inflates beyond the limit (or does not inflate) fails the connection with
an error Close status; and every message the RFC receiver delivers under the same limit — which
includes messages exactly at the limit — is delivered.
-/

namespace Reader

/-- **C13, delivered ⇒ within the limit.** Every message the loop delivers, from any state and on
any input, has a payload of at most `readMax` bytes (for a compressed message: its inflated size). -/
theorem delivered_within_limit (cfg : Cfg) (codec : Codec) (st : State) (b : Bytes) :
    ∀ op p, Ev.msg op p ∈ (readLoop cfg codec st b).evs → (p.length : Int) ≤ cfg.readMax :=
  fun _ _ hm => ((readLoop_sound cfg codec st b).1 _ hm).1

/-- **C13, oversize frame.** A frame whose declared length exceeds the limit stops the connection
with status exactly 1009 and delivers nothing; the decision is taken on the header alone, before any
payload byte is read or buffered. -/
theorem oversize_frame_1009 (cfg : Cfg) (codec : Codec) (st : State) (b : Bytes) (h : Frame.Hdr) (rest : Bytes)
    (hp : Frame.parse b = .ok h rest) (hbig : h.len > cfg.readMax) :
    step cfg codec st b = .stop [] (.err (.status 1009)) := by
  have : headerCheck cfg h = some tooLarge := by
    unfold headerCheck
    rw [if_pos (Or.inr hbig)]
  rw [step_of_parse hp, this]
  rfl

/-- **C13, oversize fragment sum.** When a frame continues a fragmented message and the bytes
buffered so far plus this fragment exceed the limit — or starts one and is itself above the limit —
the connection is failed with status exactly 1009 and nothing is delivered. -/
theorem oversize_fragments_1009 (cfg : Cfg) (codec : Codec) (st : State) (h : Frame.Hdr) (p rest : Bytes)
    (hfrag :
      (Frame.getOpcode h.b0 = 0 ∧ st.cont.initialized = true ∧
        ((st.cont.buffer.length + p.length : Nat) : Int) > cfg.readMax) ∨
      (Frame.getOpcode h.b0 ≠ 0 ∧ Frame.getFIN h.b0 = false ∧ st.cont.initialized = false ∧
        (p.length : Int) > cfg.readMax)) :
    afterPayload cfg codec st h p rest = .stop [] (.err (.status 1009)) := by
  rw [afterPayload_eq, show Facts.opContinuation = 0 from rfl]
  rcases hfrag with ⟨h0, hi, hbig⟩ | ⟨h0, hf, hi, hbig⟩
  · rw [if_pos hi, if_neg (Decidable.not_not.mpr h0), List.length_append, if_pos hbig]
    rfl
  · rw [hi, hf, if_neg Bool.false_ne_true, if_neg h0, if_neg Bool.false_ne_true, if_pos hbig]
    rfl

/-- **C13, inflation.** (1) If the library's output for the complete compressed message exceeds the
limit, `Codec.decompress` reports `tooLarge`; (2) on `tooLarge` or a library error `emitMessage`
fails the connection with the error Close status 1011 and delivers nothing; (3) an output that is
accepted is within the limit. -/
theorem inflate_limit (cfg : Cfg) (codec : Codec) (st : State) (opcode : Nat) (data : Bytes) :
    (∀ out, codec.inflate st.dps.dict (data ++ Codec.flateTail) = some out → (out.length : Int) > cfg.readMax →
      codec.decompress cfg.readMax st.dps.dict data = .tooLarge) ∧
    (codec.decompress cfg.readMax st.dps.dict data = .tooLarge ∨
      codec.decompress cfg.readMax st.dps.dict data = .libError →
      emitMessage cfg codec st opcode data true = .inr (.err (.coded 1011))) ∧
    (∀ out, codec.decompress cfg.readMax st.dps.dict data = .ok out → (out.length : Int) ≤ cfg.readMax) := by
  refine ⟨?_, ?_, fun out h => decompress_ok_le h⟩
  · intro out ho hbig
    unfold Codec.decompress
    rw [ho]
    simp only
    rw [if_pos hbig]
  · intro h
    unfold emitMessage
    simp only [if_true]
    rcases h with h | h <;> rw [h] <;> rfl

/-- **C13, within the limit ⇒ delivered.** The model delivers exactly the events the RFC receiver
delivers under the same limit — in particular every RFC-valid message whose frame sizes, fragment
sum and inflated size are all ≤ the limit, including exactly at it, is delivered (see the examples
below for the boundary). Corollary of `readLoop_refines_rfc`; no hypothesis about sizes appears because the limit is the
same `cfg.readMax` on both sides (`specCtx`), so "within the limit" is the spec's own test. -/
theorem within_limit_delivered (cfg : Cfg) (codec : Codec) (st : State) (sst : Spec.RxState) (b : Bytes)
    (hrel : Rel cfg st sst) :
    (readLoop cfg codec st b).evs.map Ev.toSpec = (Spec.receive (specCtx cfg st) codec sst b).evs :=
  ((traceOk_iff ..).mp (readLoop_refines_rfc cfg codec st sst b hrel)).1

/-- a message exactly at the limit is delivered by the spec (hence by the model) -/
example (codec : Codec) :
    let cfg : Cfg := { isServer := false, pdEnabled := false, readMax := 2, checkUtf8 := false }
    (Spec.receive (specCtx cfg {}) codec {} [0x82, 0x02, 0xAA, 0xBB]).evs = [.msg 2 [0xAA, 0xBB]] ∧
    step cfg codec {} [0x82, 0x02, 0xAA, 0xBB] = .ok {} [.msg 2 [0xAA, 0xBB]] [] := by
  intro cfg
  constructor
  · spec_eval [cfg]
  · reader_eval [cfg]

/-- one byte more: 1009, nothing delivered -/
example (codec : Codec) :
    step { isServer := false, pdEnabled := false, readMax := 2, checkUtf8 := false } codec {}
      [0x82, 0x03, 0xAA, 0xBB, 0xCC] = .stop [] (.err (.status 1009)) := by
  reader_eval []

/-- two fragments of 2 + 1 bytes under limit 2: the second one trips the sum check -/
example (codec : Codec) :
    let cfg : Cfg := { isServer := false, pdEnabled := false, readMax := 2, checkUtf8 := false }
    step cfg codec {} [0x02, 0x02, 0xAA, 0xBB, 0x80, 0x01, 0xCC] =
      .ok { cont := { initialized := true, compressed := false, opcode := 2, buffer := [0xAA, 0xBB] } } []
        [0x80, 0x01, 0xCC] ∧
    step cfg codec { cont := { initialized := true, compressed := false, opcode := 2, buffer := [0xAA, 0xBB] } }
      [0x80, 0x01, 0xCC] = .stop [] (.err (.status 1009)) := by
  intro cfg
  constructor <;> reader_eval [cfg]

/-- a compressed message of 2 wire bytes that inflates (with the doubling stand-in codec) to 4 bytes:
under limit 3 the connection is failed with 1011 and nothing is delivered; under limit 4 — exactly
the inflated size — it is delivered -/
example :
    step { isServer := false, pdEnabled := true, readMax := 3, checkUtf8 := false } dupCodec {}
      [0xC2, 0x02, 0xAA, 0xBB] = .stop [] (.err (.coded 1011)) ∧
    step { isServer := false, pdEnabled := true, readMax := 4, checkUtf8 := false } dupCodec {}
      [0xC2, 0x02, 0xAA, 0xBB] = .ok {} [.msg 2 [0xAA, 0xBB, 0xAA, 0xBB]] [] := by
  constructor <;> reader_eval []

end Reader
