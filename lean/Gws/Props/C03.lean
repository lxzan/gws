import Gws.Lemmas.ReaderLoop
/-!
# C03 — inbound frames: accept exactly what the RFCs allow, else fail with an allowed status

Statement: on every byte stream, in every reader state, the read loop delivers exactly the events
the RFC 6455 §5 / RFC 7692 §6 receiver (`Spec.receive`) delivers for the longest valid prefix, and
ends in a way that receiver allows: at the first violating frame, one reply whose status belongs to
the set of statuses of the violations present in that frame; a peer Close is reported with the
peer's code and reason and answered as the C06 table says; end of input is an I/O closure.
The relation `Reader.Rel` ties the model's continuation buffer / window to the spec's message in
progress / history; it holds of the initial states (`Rel.init_plain`, `Rel.init_takeover`).
-/

namespace Reader

/-- **C03, refinement.** From any related pair of states and for every input, the model's trace is
one the RFC receiver allows: same delivered events, and an ending inside the spec's latitude
(`traceOk`).  No side condition on the configuration is needed (in particular none on `readMax`). -/
theorem readLoop_refines_rfc (cfg : Cfg) (codec : Codec) (st : State) (sst : Spec.RxState) (b : Bytes)
    (hrel : Rel cfg st sst) :
    traceOk (Spec.receive (specCtx cfg st) codec sst b) (readLoop cfg codec st b) = true :=
  receiveFuel_refines cfg codec st b sst (b.length + 1) hrel (by omega)

/-- **C03 from the initial state, inbound context takeover** (window of `2^bits` bytes). -/
theorem readLoop_refines_rfc_takeover (cfg : Cfg) (codec : Codec) (bits : Nat) (b : Bytes) :
    traceOk (Spec.receive (specCtx cfg { dps := Win.init bits }) codec {} b)
      (readLoop cfg codec { dps := Win.init bits } b) = true :=
  readLoop_refines_rfc cfg codec _ _ b (Rel.init_takeover cfg bits)

/-- **C03 from the initial state, no inbound window** (compression off or no context takeover). -/
theorem readLoop_refines_rfc_plain (cfg : Cfg) (codec : Codec) (b : Bytes) :
    traceOk (Spec.receive (specCtx cfg {}) codec {} b) (readLoop cfg codec {} b) = true :=
  readLoop_refines_rfc cfg codec _ _ b (Rel.init_plain cfg)

/-- **C03, status at the first violating frame.** If the RFC receiver fails the connection with the
status set `allowed` (the statuses of the violations co-occurring in the offending frame, the frame
being complete), then the model's loop ends with an error that is not an I/O closure, the single
reply status it sends is a member of `allowed`, and the events delivered are exactly those of the
valid prefix. -/
theorem violation_status (cfg : Cfg) (codec : Codec) (st : State) (sst : Spec.RxState) (b : Bytes)
    (hrel : Rel cfg st sst) (allowed : List Nat)
    (hfail : (Spec.receive (specCtx cfg st) codec sst b).ending = .fail allowed false) :
    ∃ e, (readLoop cfg codec st b).ending = .err e ∧ e ≠ .other ∧ e.sendCode ∈ allowed ∧
      (readLoop cfg codec st b).ending.replyStatus = some e.sendCode ∧
      (readLoop cfg codec st b).evs.map Ev.toSpec = (Spec.receive (specCtx cfg st) codec sst b).evs := by
  obtain ⟨hevs, hend⟩ := (traceOk_iff ..).mp (readLoop_refines_rfc cfg codec st sst b hrel)
  rw [hfail] at hend
  cases he : (readLoop cfg codec st b).ending with
  | err e =>
    rw [he] at hend
    simp only [endOk] at hend
    by_cases ho : e = .other
    · simp [ho] at hend
    · simp only [ho, if_false, decide_eq_true_eq] at hend
      exact ⟨e, rfl, ho, hend, rfl, hevs⟩
  | peerClose pc => rw [he] at hend; simp [endOk] at hend
  | panic w => rw [he] at hend; simp [endOk] at hend

/-- **C03, streaming consistency (events).** What has been delivered for a prefix of the stream is
never retracted: the events for `b₁` are a prefix of the events for `b₁ ++ b₂`. -/
theorem prefix_monotone (cfg : Cfg) (codec : Codec) (st : State) (b₁ b₂ : Bytes) :
    (readLoop cfg codec st b₁).evs <+: (readLoop cfg codec st (b₁ ++ b₂)).evs := by
  fun_induction readLoop cfg codec st b₁ with
  | case1 st b evs e hstep =>
    rw [((step_sound cfg codec st b).stop hstep).1]
    exact List.nil_prefix
  | case2 st b st' evs rest hstep t ih =>
    rw [readLoop_ok (step_append b₂ hstep)]
    exact (List.prefix_append_right_inj evs).mpr ih

/-- **C03, streaming consistency (ending).** A connection that ended on `b₁` for any reason other
than running out of input (a violation, a limit, a peer Close) ends identically whatever bytes
follow: a failed connection stays failed, with the same events and the same reply. -/
theorem failed_stays_failed (cfg : Cfg) (codec : Codec) (st : State) (b₁ b₂ : Bytes)
    (hio : (readLoop cfg codec st b₁).ending ≠ .err .other) :
    (readLoop cfg codec st (b₁ ++ b₂)).evs = (readLoop cfg codec st b₁).evs ∧
    (readLoop cfg codec st (b₁ ++ b₂)).ending = (readLoop cfg codec st b₁).ending := by
  fun_induction readLoop cfg codec st b₁ with
  | case1 st b evs e hstep =>
    rw [readLoop_stop (step_stop_append b₂ hstep hio)]
    exact ⟨rfl, rfl⟩
  | case2 st b st' evs rest hstep t ih =>
    rw [readLoop_ok (step_append b₂ hstep)]
    have := ih hio
    exact ⟨by rw [this.1], this.2⟩

/-- a client-side reader, no compression: text "hi", Ping, Close(1000) -/
example (codec : Codec) :
    let cfg : Cfg := { isServer := false, pdEnabled := false, readMax := 125, checkUtf8 := true }
    let b : Bytes := [0x81, 0x02, 0x68, 0x69, 0x89, 0x01, 0x07, 0x88, 0x02, 0x03, 0xE8]
    (readLoop cfg codec {} b).evs = [.msg 1 [0x68, 0x69], .ping [0x07]] ∧
    (readLoop cfg codec {} b).ending = .peerClose { realCode := 1000, reason := [], response := 1000 } ∧
    (Spec.receive (specCtx cfg {}) codec {} b).evs = [.msg 1 [0x68, 0x69], .ping [0x07]] ∧
    (Spec.receive (specCtx cfg {}) codec {} b).ending = .peerClose 1000 [] [some 1000] := by
  intro cfg b
  have s1 : step cfg codec {} b = .ok {} [.msg 1 [0x68, 0x69]] [0x89, 0x01, 0x07, 0x88, 0x02, 0x03, 0xE8] := by
    reader_eval [cfg, b]
  have s2 : step cfg codec {} [0x89, 0x01, 0x07, 0x88, 0x02, 0x03, 0xE8] = .ok {} [.ping [0x07]] [0x88, 0x02, 0x03, 0xE8] := by
    reader_eval [cfg]
  have s3 : step cfg codec {} [0x88, 0x02, 0x03, 0xE8] =
      .stop [] (.peerClose { realCode := 1000, reason := [], response := 1000 }) := by
    reader_eval [cfg, Close.classify]
    decide
  have sp : Spec.receive (specCtx cfg {}) codec {} b =
      { evs := [.msg 1 [0x68, 0x69], .ping [0x07]], ending := .peerClose 1000 [] [some 1000] } := by
    spec_eval [cfg, b, Spec.closeCodeForbidden]
  rw [readLoop_ok s1, readLoop_ok s2, readLoop_stop s3, sp]
  exact ⟨rfl, rfl, rfl, rfl⟩

/-- a server-side reader: a masked text frame (key `01 02 03 04`) followed by an unmasked frame with RSV2 set — two
violations in one frame, the spec allows `{1002}`, the model answers 1002 after delivering the text -/
example (codec : Codec) :
    let cfg : Cfg := { isServer := true, pdEnabled := false, readMax := 125, checkUtf8 := false }
    let b : Bytes := [0x81, 0x81, 1, 2, 3, 4, 0x40, 0xA2, 0x00]
    (Spec.receive (specCtx cfg {}) codec {} b).ending = .fail [1002, 1002] false ∧
    (readLoop cfg codec {} b).evs = [.msg 1 [0x41]] ∧
    (readLoop cfg codec {} b).ending = .err (.status 1002) := by
  intro cfg b
  have hx : (0x40 ^^^ 1 : UInt8) = 0x41 := by decide
  have s1 : step cfg codec {} b = .ok {} [.msg 1 [0x41]] [0xA2, 0x00] := by
    reader_eval [cfg, b, hx]
  have s2 : step cfg codec {} [0xA2, 0x00] = .stop [] (.err (.status 1002)) := by
    reader_eval [cfg]
  rw [readLoop_ok s1, readLoop_stop s2]
  refine ⟨?_, rfl, rfl⟩
  spec_eval [cfg, b, hx]

/-- cutting the stream inside the second frame: the first message is still delivered (prefix) -/
example (codec : Codec) :
    let cfg : Cfg := { isServer := false, pdEnabled := false, readMax := 125, checkUtf8 := true }
    (readLoop cfg codec {} [0x81, 0x02, 0x68, 0x69, 0x89]).evs = [.msg 1 [0x68, 0x69]] ∧
    (readLoop cfg codec {} [0x81, 0x02, 0x68, 0x69, 0x89]).ending = .err .other := by
  intro cfg
  have s1 : step cfg codec {} [0x81, 0x02, 0x68, 0x69, 0x89] = .ok {} [.msg 1 [0x68, 0x69]] [0x89] := by
    reader_eval [cfg]
  have s2 : step cfg codec {} [0x89] = .stop [] (.err .other) := by
    reader_eval [cfg]
  rw [readLoop_ok s1, readLoop_stop s2]
  exact ⟨rfl, rfl⟩

end Reader
