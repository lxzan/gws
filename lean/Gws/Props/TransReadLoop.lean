import Gws.Generated.TransFW
import Gws.Props.TransFile
import Gws.Props.TransSend
import Gws.Props.TransWindow
import Gws.Props.C17
import Gws.Lemmas.WriterFile
/-!
# T3 — the two read loops of writefile.go (`splitReader`, `readerWrapper.WriteTo`), translated on every run, equal the model

The reader is the script of its `Read` results (`Writer.ReaderScript`: `(chunk, eof)`; a script that ends without an EOF read is
a reader that then fails). Calls with effects outside the loop thread an abstract state `σ`; the theorems instantiate it with
the list of what was handed out so far, so the order of the calls is part of the statement.  The two seeded defects "EOF
chunk dropped" and "EOF chunk not in the window" lived in the loop of `WriteTo`.
-/
set_option linter.unusedSimpArgs false   -- deliberate: arguments idle under today's translation serve when the Go code is re-spelled

namespace TransEquiv.RL
open TransFW Writer

/-- the Go callback seen from the loop, for a model callback `f`: the frame it produces is appended to what was written
(`index` is the loop's counter, a Go `int`; `FW.cbOf` is the same for the aggregator, whose index is the model's `Nat`) -/
def cbOf (f : Nat → Bool → Bytes → Except WErr Bytes) (st : List Bytes) (index : Int) (eof : Bool) (p : Bytes) :
    List Bytes × Option GoErr :=
  match f index.toNat eof p with
  | .ok frame => (st ++ [frame], none)
  | .error e => (st, some (goErrOfW e))

/-- the state of the loop: the early `return` value, then `st`, `n`, `index`, `err`, `exhausted` -/
abbrev SRState (σ : Type) := Option (σ × Option GoErr) × σ × Int × Int × Option GoErr × Bool

/-- `err == io.EOF` right after the `Read` that returned `rd.2` -/
def eofOf (b : Bool) : Bool := ((if b = true then some (GoErr.named "EOF") else none) == some (GoErr.named "EOF"))

theorem eofOf_eq (b : Bool) : eofOf b = b := by cases b <;> decide

/-- the body of the elaborated `for` of `Conn_splitReader` (`done` = `return`/`break`, `yield` = next iteration) -/
def srBody {σ : Type} (f : σ → Int → Bool → Bytes → σ × Option GoErr) (rd : Bytes × Bool) : SRState σ → Id (ForInStep (SRState σ))
  | (_, st, _, index, _, exhausted) =>
    let r := f st index (eofOf rd.2) rd.1
    if r.2 != none then pure (.done (some r, r.1, rd.1.length, index, r.2, exhausted))
    else if eofOf rd.2 then pure (.done (none, r.1, rd.1.length, index + 1, r.2, false))
    else pure (.yield (none, r.1, rd.1.length, index + 1, r.2, exhausted))

def srPost {σ : Type} : SRState σ → σ × Option GoErr
  | (some r, _) => r
  | (none, st, _, _, err, exhausted) => if exhausted then (st, some GoErr.io) else (st, err)

theorem splitReader_unfold {σ : Type} (f : σ → Int → Bool → Bytes → σ × Option GoErr) (st0 : σ) (script : List (Bytes × Bool)) :
    Conn_splitReader f st0 script = srPost (Id.run (forIn script ((none, st0, 0, 0, none, true) : SRState σ) (srBody f))) := by
  unfold Conn_splitReader
  dsimp only
  unfold srBody eofOf
  -- what follows the loop is a `match` on the early-return component of its result: it computes once that is a constructor
  generalize (forIn script ((none, st0, 0, 0, none, true) : SRState σ) _ : Id (SRState σ)) = s
  rcases s with ⟨_ | r, s⟩ <;> rfl

theorem sr_loop (F : List Bytes → Int → Bool → Bytes → List Bytes × Option GoErr) (f : Nat → Bool → Bytes → Except WErr Bytes)
    (script : List (Bytes × Bool))
    (hF : ∀ rd ∈ script, ∀ (st : List Bytes) (k : Nat), F st (k : Int) rd.2 rd.1 = cbOf f st (k : Int) rd.2 rd.1)
    (st : List Bytes) (k : Nat) (n : Int) (err : Option GoErr) :
    srPost (Id.run (forIn script ((none, st, n, (k : Int), err, true) : SRState (List Bytes)) (srBody F)))
      = (st ++ (Writer.splitReader f script k).1, (Writer.splitReader f script k).2.map goErrOfW) := by
  induction script generalizing st k n err with
  | nil => simp [srPost, Writer.splitReader, goErrOfW]
  | cons rd rest ih =>
    obtain ⟨h1, hrest⟩ := List.forall_mem_cons.mp hF
    obtain ⟨p, eof⟩ := rd
    simp only [List.forIn_cons, srBody, eofOf_eq, h1, cbOf, Int.toNat_natCast, Writer.splitReader]
    cases hf : f k eof p with
    | error e => simp [srPost]
    | ok frame =>
      cases eof with
      | true => simp [srPost]
      | false =>
        simp only [bne_self_eq_false, Bool.false_eq_true, if_false, pure_bind]
        rw [← Int.natCast_succ, ih hrest, List.append_assoc]
        rfl

/-- `splitReader(r, f)` = `Writer.splitReader`: the frames written, and the error returned (the reader's failure is `GoErr.io`) -/
theorem splitReader_eq (f : Nat → Bool → Bytes → Except WErr Bytes) (script : ReaderScript) :
    Conn_splitReader (cbOf f) [] script
      = ((Writer.splitReader f script 0).1, (Writer.splitReader f script 0).2.map goErrOfW) := by
  rw [splitReader_unfold]
  simpa using sr_loop (cbOf f) f script (fun _ _ _ _ => rfl) [] 0 0 none

/-- a compressor that accepts every write: it records the chunks it was given, in order -/
def sink (st : List Bytes) (p : Bytes) : List Bytes × Int × Option GoErr := (st ++ [p], (p.length : Int), none)

/-- the state of the loop: the early `return` value, then `st`, `c_sw_dict`, `sum`, `n`, `err`, `exhausted` -/
abbrev WTState (σ : Type) := Option ((σ × Bytes) × Int × Option GoErr) × σ × Bytes × Int × Int × Option GoErr × Bool

def wtBody {σ : Type} (w_Write : σ → Bytes → σ × Int × Option GoErr) (en : Bool) (size : Int) (rd : Bytes × Bool) :
    WTState σ → Id (ForInStep (WTState σ))
  | (_, st, dict, sum, _, _, exhausted) =>
    let r := w_Write st rd.1
    let dict' := (Trans.slideWindow_Write rd.1 (c_dict := dict) (c_enabled := en) (c_size := size)).1
    if r.2.2 != none then pure (.done (some ((r.1, dict), sum, r.2.2), r.1, dict, sum, rd.1.length, r.2.2, exhausted))
    else if eofOf rd.2 then pure (.done (none, r.1, dict', sum + rd.1.length, rd.1.length, r.2.2, false))
    else pure (.yield (none, r.1, dict', sum + rd.1.length, rd.1.length, r.2.2, exhausted))

def wtPost {σ : Type} : WTState σ → (σ × Bytes) × (Int × Option GoErr)
  | (some r, _) => r
  | (none, st, dict, sum, _, err, exhausted) => if exhausted then ((st, dict), sum, some GoErr.io) else ((st, dict), sum, err)

theorem WriteTo_unfold {σ : Type} (w_Write : σ → Bytes → σ × Int × Option GoErr) (st0 : σ) (d0 : Bytes) (en : Bool) (size : Int)
    (script : List (Bytes × Bool)) :
    readerWrapper_WriteTo w_Write st0 d0 en size script
      = wtPost (Id.run (forIn script ((none, st0, d0, 0, 0, none, true) : WTState σ) (wtBody w_Write en size))) := by
  unfold readerWrapper_WriteTo
  dsimp only
  unfold wtBody eofOf
  generalize (forIn script ((none, st0, d0, 0, 0, none, true) : WTState σ) _ : Id (WTState σ)) = s
  rcases s with ⟨_ | r, s⟩ <;> rfl

theorem wt_loop (script : List (Bytes × Bool)) (w : Win) (st : List Bytes) (sum n : Int) (err : Option GoErr) :
    wtPost (Id.run (forIn script ((none, st, w.dict, sum, n, err, true) : WTState (List Bytes)) (wtBody sink w.enabled (w.size : Int))))
      = ((st ++ (readChunks script).1, ((readChunks script).1.foldl Win.write w).dict),
         sum + ((((readChunks script).1.map (·.length)).sum : Nat) : Int),
         (if (readChunks script).2 then none else some GoErr.io)) := by
  induction script generalizing w st sum n err with
  | nil => simp [wtPost, readChunks]
  | cons rd rest ih =>
    obtain ⟨p, eof⟩ := rd
    obtain ⟨he, hs⟩ := Win.write_frame w p
    simp only [List.forIn_cons, wtBody, eofOf_eq, sink, readChunks, slideWindow_Write_eq w p]
    cases eof with
    | true => simp [wtPost]
    | false =>
      simp only [bne_self_eq_false, Bool.false_eq_true, if_false, pure_bind]
      rw [← he, ← hs, ih]
      simp [Int.add_assoc]

/-- `readerWrapper.WriteTo(w)` = `Writer.readChunks` + the window fold: the chunks handed to the compressor, the window
afterwards, the byte count, and the error (none iff the reader reached EOF) -/
theorem WriteTo_eq (w : Win) (script : ReaderScript) :
    readerWrapper_WriteTo sink [] w.dict w.enabled (w.size : Int) script
      = (((readChunks script).1, ((readChunks script).1.foldl Win.write w).dict),
         ((((readChunks script).1.map (·.length)).sum : Nat) : Int),
         (if (readChunks script).2 then none else some GoErr.io)) := by
  rw [WriteTo_unfold]
  simpa using wt_loop script w [] 0 0 none

theorem interpF_inv {x : Except (Option GoErr) Bytes} {y : Except WErr Bytes} (h : interpF x = y)
    (hy : ∀ e, y = .error e → e = .connClosed ∨ e = .textEncoding ∨ e = .messageTooLarge) :
    (∃ b, x = .ok b ∧ y = .ok b) ∨ (∃ e, x = .error (some (goErrOfW e)) ∧ y = .error e) := by
  unfold interpF at h
  split at h
  · exact .inl ⟨_, rfl, h.symm⟩
  · exact .inr ⟨.connClosed, rfl, h.symm⟩
  · exact .inr ⟨.textEncoding, rfl, h.symm⟩
  · exact .inr ⟨.messageTooLarge, rfl, h.symm⟩
  · rcases hy _ h.symm with h' | h' | h' <;> cases h'

theorem cb_translated_cases (cfg : Cfg) (codec : Codec) (closed : Bool) (opcode : UInt8) (maskNum : UInt32)
    (k : Nat) (eof : Bool) (p : Bytes) (hlen : p.length < 2 ^ 62) :
    (∃ b, Trans.Conn_doWriteFile_frame (c_pd_Enabled := cfg.pdEnabled) (c_genFrame := genFrameT cfg maskNum)
          (closed := closed) (eof := eof) (index := (k : Int)) (opcode := opcode) (p := p) = .ok b
        ∧ fileFrame cfg codec closed opcode.toNat k eof p (goBytesU32LE maskNum) = .ok b)
    ∨ (∃ e, Trans.Conn_doWriteFile_frame (c_pd_Enabled := cfg.pdEnabled) (c_genFrame := genFrameT cfg maskNum)
          (closed := closed) (eof := eof) (index := (k : Int)) (opcode := opcode) (p := p) = .error (some (goErrOfW e))
        ∧ fileFrame cfg codec closed opcode.toNat k eof p (goBytesU32LE maskNum) = .error e) :=
  interpF_inv (doWriteFile_frame_eq cfg codec closed opcode k eof p maskNum hlen) fun _ => fileFrame_error

/-- `doWriteFile` when compression is not negotiated: the translated `splitReader` driving the translated callback (which calls
the translated `genFrame`) writes exactly the frames of the model, and returns its error -/
theorem uncompressed_WriteFile_translated (cfg : Cfg) (codec : Codec) (closed : Bool) (opcode : UInt8) (script : ReaderScript)
    (maskNums : Nat → UInt32) (hlen : ∀ rd ∈ script, rd.1.length < 2 ^ 62) :
    Conn_splitReader
        (fun (st : List Bytes) (index : Int) (eof : Bool) (p : Bytes) =>
          match Trans.Conn_doWriteFile_frame (c_pd_Enabled := cfg.pdEnabled) (c_genFrame := genFrameT cfg (maskNums index.toNat))
              (closed := closed) (eof := eof) (index := index) (opcode := opcode) (p := p) with
          | .ok frame => (st ++ [frame], none)
          | .error e => (st, e))
        [] script
      = ((Writer.splitReader (fun index eof p => fileFrame cfg codec closed opcode.toNat index eof p (goBytesU32LE (maskNums index))) script 0).1,
         ((Writer.splitReader (fun index eof p => fileFrame cfg codec closed opcode.toNat index eof p (goBytesU32LE (maskNums index))) script 0).2).map goErrOfW) := by
  rw [splitReader_unfold]
  refine (sr_loop _ (fun index eof p => fileFrame cfg codec closed opcode.toNat index eof p (goBytesU32LE (maskNums index))) script
    ?_ [] 0 0 none).trans ?_
  · intro rd hrd st k
    simp only [cbOf, Int.toNat_natCast]
    rcases cb_translated_cases cfg codec closed opcode (maskNums k) k rd.2 rd.1 (hlen rd hrd) with ⟨b, h1, h2⟩ | ⟨e, h1, h2⟩ <;>
      rw [h1, h2]
  · simp

example : Conn_splitReader (cbOf fun i eof p => .ok (UInt8.ofNat i :: (if eof then 1 else 0) :: p)) [] [([7], false), ([8, 9], true), ([1], false)]
    = ([[0, 0, 7], [1, 1, 8, 9]], none) := by decide +kernel
example : (readerWrapper_WriteTo sink [] [] true 4 [([1, 2, 3], false), ([4, 5], true)]).1 = ([[1, 2, 3], [4, 5]], [2, 3, 4, 5]) := by decide +kernel

end TransEquiv.RL
