import Gws.Generated.Trans
import Gws.Model.Nego
/-!
# T3 — option normalisation (option.go) and the two `getPermessageDeflate` (upgrader.go, client.go), translated from
the source on every run, equal the model

These are the functions C12's agreement theorems compose.  For the two `getPermessageDeflate` the parsed header and
`strings.Contains` are inputs here (TransNegoParse puts the translated parser in).  The size limits after initialisation
are positive: the hypothesis `0 < readMax` of the read-path theorems (C04, C13) holds for every configuration the
application can pass.
-/
namespace TransEquiv

theorem setThreshold_eq (isServer : Bool) (p : Nego.PD) :
    Trans.PermessageDeflate_setThreshold isServer (c_ServerContextTakeover := p.serverTakeover) (c_ClientContextTakeover := p.clientTakeover)
        (c_Threshold := p.threshold)
      = (Nego.setThreshold isServer p).threshold := by
  unfold Trans.PermessageDeflate_setThreshold Nego.setThreshold
  cases isServer <;> cases p.serverTakeover <;> cases p.clientTakeover <;> simp

/-- `level`, `poolSize` are not part of the negotiation model; `pow2` stands for `internal.ToBinaryNumber(PoolSize)`,
which the translated function takes as an input -/
theorem initServerOption_pd_eq (p : Nego.PD) (level poolSize pow2 : Int) :
    ∃ lvl ps, Trans.initServerOption_pd (c_PermessageDeflate_Enabled := p.enabled) (c_PermessageDeflate_ServerMaxWindowBits := p.serverBits)
        (c_PermessageDeflate_ClientMaxWindowBits := p.clientBits) (c_PermessageDeflate_Threshold := p.threshold)
        (c_PermessageDeflate_Level := level) (c_PermessageDeflate_PoolSize := poolSize)
        (c_PermessageDeflate_ServerContextTakeover := p.serverTakeover) (c_PermessageDeflate_ClientContextTakeover := p.clientTakeover)
        (poolSizePow2 := pow2)
      = .ok ((Nego.normServer p).clientBits, lvl, ps, (Nego.normServer p).serverBits, (Nego.normServer p).threshold) := by
  unfold Trans.initServerOption_pd Nego.normServer
  cases p.enabled
  · exact ⟨level, poolSize, by simp⟩
  · refine ⟨if level == 0 then 1 else level, pow2, ?_⟩
    simp only [↓reduceIte, Nego.defaultThreshold, Facts.defaultCompressThreshold]
    congr 2 <;> simp [Bool.or_eq_true, decide_eq_true_eq]

theorem initClientOption_pd_eq (p : Nego.PD) (level poolSize : Int) :
    ∃ lvl ps, Trans.initClientOption_pd (c_PermessageDeflate_Enabled := p.enabled) (c_PermessageDeflate_ServerMaxWindowBits := p.serverBits)
        (c_PermessageDeflate_ClientMaxWindowBits := p.clientBits) (c_PermessageDeflate_Threshold := p.threshold)
        (c_PermessageDeflate_Level := level) (c_PermessageDeflate_PoolSize := poolSize)
      = .ok ((Nego.normClient p).clientBits, lvl, ps, (Nego.normClient p).serverBits, (Nego.normClient p).threshold) := by
  unfold Trans.initClientOption_pd Nego.normClient
  cases p.enabled
  · exact ⟨level, poolSize, by simp⟩
  · refine ⟨if level == 0 then 1 else level, 1, ?_⟩
    simp only [↓reduceIte, Nego.defaultThreshold, Facts.defaultCompressThreshold]
    congr 2 <;> simp [Bool.or_eq_true, decide_eq_true_eq]

/-- `Upgrader.getPermessageDeflate` = `Nego.serverGetPD`: the server keeps its own window bits and threshold, a direction keeps
its context iff the client's offer does not decline it AND the server's setting allows it, compression is on iff the server
enables it and the offer names the extension, and `setThreshold(true)` is applied last.  `clientPD` (what
`permessageNegotiation` makes of the offer) and `offered` are inputs of the translated function and replace the only uses
of its string argument: `ext` occurs nowhere in its body and is unrelated to `extensions`. -/
theorem server_getPD_eq (opt : Nego.PD) (extensions : Nego.Str) (level poolSize : Int) (ext : Hs.Str) :
    Trans.Upgrader_getPermessageDeflate ext
        (c_option_PermessageDeflate_ClientContextTakeover := opt.clientTakeover)
        (c_option_PermessageDeflate_ClientMaxWindowBits := opt.clientBits)
        (c_option_PermessageDeflate_Enabled := opt.enabled)
        (c_option_PermessageDeflate_Level := level) (c_option_PermessageDeflate_PoolSize := poolSize)
        (c_option_PermessageDeflate_ServerContextTakeover := opt.serverTakeover)
        (c_option_PermessageDeflate_ServerMaxWindowBits := opt.serverBits)
        (c_option_PermessageDeflate_Threshold := opt.threshold)
        (clientPD_ClientContextTakeover := (Nego.permessageNegotiation extensions).clientTakeover)
        (clientPD_ServerContextTakeover := (Nego.permessageNegotiation extensions).serverTakeover)
        (offered := Nego.contains extensions Nego.pmd)
      = ((Nego.serverGetPD opt extensions).enabled, level, (Nego.serverGetPD opt extensions).threshold, poolSize,
         (Nego.serverGetPD opt extensions).serverTakeover, (Nego.serverGetPD opt extensions).clientTakeover,
         (Nego.serverGetPD opt extensions).serverBits, (Nego.serverGetPD opt extensions).clientBits) := by
  unfold Trans.Upgrader_getPermessageDeflate Trans.PermessageDeflate_setThreshold Nego.serverGetPD Nego.setThreshold
  generalize Nego.permessageNegotiation extensions = cpd
  obtain ⟨_, cst, cct, _, _, _⟩ := cpd
  obtain ⟨_, ost, oct, _, _, _⟩ := opt
  cases cst <;> cases cct <;> cases ost <;> cases oct <;> simp

/-- `connector.getPermessageDeflate` = `Nego.clientGetPD`: the client takes takeover flags and window bits from the server's
response, keeps its own threshold, and `setThreshold(false)` is applied last (`ext`, `extensions`: as in `server_getPD_eq`) -/
theorem client_getPD_eq (opt : Nego.PD) (extensions : Nego.Str) (level poolSize : Int) (ext : Hs.Str) :
    Trans.connector_getPermessageDeflate ext
        (c_option_PermessageDeflate_Enabled := opt.enabled)
        (c_option_PermessageDeflate_Level := level) (c_option_PermessageDeflate_PoolSize := poolSize)
        (c_option_PermessageDeflate_Threshold := opt.threshold)
        (serverPD_ClientContextTakeover := (Nego.permessageNegotiation extensions).clientTakeover)
        (serverPD_ClientMaxWindowBits := (Nego.permessageNegotiation extensions).clientBits)
        (serverPD_ServerContextTakeover := (Nego.permessageNegotiation extensions).serverTakeover)
        (serverPD_ServerMaxWindowBits := (Nego.permessageNegotiation extensions).serverBits)
        (offered := Nego.contains extensions Nego.pmd)
      = ((Nego.clientGetPD opt extensions).enabled, level, (Nego.clientGetPD opt extensions).threshold, poolSize,
         (Nego.clientGetPD opt extensions).serverTakeover, (Nego.clientGetPD opt extensions).clientTakeover,
         (Nego.clientGetPD opt extensions).serverBits, (Nego.clientGetPD opt extensions).clientBits) := by
  unfold Trans.connector_getPermessageDeflate Trans.PermessageDeflate_setThreshold Nego.clientGetPD Nego.setThreshold
  generalize Nego.permessageNegotiation extensions = spd
  obtain ⟨_, sst, sct, _, _, _⟩ := spd
  cases sst <;> cases sct <;> simp

/-- after `initServerOption` the limits are positive, whatever the application configured -/
theorem initServerOption_limits_pos (r g rb w wb : Int) :
    ∃ g' rb' r' wb' w', Trans.initServerOption_limits (c_ReadMaxPayloadSize := r) (c_ParallelGolimit := g) (c_ReadBufferSize := rb)
        (c_WriteMaxPayloadSize := w) (c_WriteBufferSize := wb)
        = .ok (g', rb', r', wb', w') ∧ 0 < r' ∧ 0 < w' ∧ 0 < g'
      ∧ (0 < r → r' = r) ∧ (r ≤ 0 → r' = Facts.defaultReadMaxPayloadSize) := by
  unfold Trans.initServerOption_limits
  refine ⟨_, _, _, _, _, rfl, ?_, ?_, ?_, ?_, ?_⟩ <;> simp only [decide_eq_true_eq, Facts.defaultReadMaxPayloadSize] <;> split <;> omega

theorem initClientOption_limits_pos (r g rb w wb : Int) :
    ∃ g' rb' r' wb' w', Trans.initClientOption_limits (c_ReadMaxPayloadSize := r) (c_ParallelGolimit := g) (c_ReadBufferSize := rb)
        (c_WriteMaxPayloadSize := w) (c_WriteBufferSize := wb)
        = .ok (g', rb', r', wb', w') ∧ 0 < r' ∧ 0 < w' ∧ 0 < g'
      ∧ (0 < r → r' = r) ∧ (r ≤ 0 → r' = Facts.defaultReadMaxPayloadSize) := by
  unfold Trans.initClientOption_limits
  refine ⟨_, _, _, _, _, rfl, ?_, ?_, ?_, ?_, ?_⟩ <;> simp only [decide_eq_true_eq, Facts.defaultReadMaxPayloadSize] <;> split <;> omega

example : Trans.initServerOption_pd (c_PermessageDeflate_Enabled := true) (c_PermessageDeflate_ServerMaxWindowBits := 3)
    (c_PermessageDeflate_ClientMaxWindowBits := 20) (c_PermessageDeflate_Threshold := 0)
    (c_PermessageDeflate_Level := 0) (c_PermessageDeflate_PoolSize := 0)
    (c_PermessageDeflate_ServerContextTakeover := true) (c_PermessageDeflate_ClientContextTakeover := false)
    (poolSizePow2 := 32) = .ok (15, 1, 32, 12, 512) := by rfl
example : Trans.initServerOption_limits (c_ReadMaxPayloadSize := (-5)) (c_ParallelGolimit := 0) (c_ReadBufferSize := 0)
    (c_WriteMaxPayloadSize := 70000) (c_WriteBufferSize := 1) = .ok (8, 4096, 16777216, 1, 70000) := by rfl

end TransEquiv
