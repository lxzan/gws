import Gws.Generated.Facts
/-!
# Source-shape obligation of C18

"Touches nothing outside the buffer" is a statement about memory that the list model of `maskXOR` cannot make.  Whether
the routine uses `unsafe` or `reflect` is read off the source on every run (`tools/factgen`, `Gws/Generated/Facts.lean`).
-/

namespace SourceShape

/-- C18: the masking routine uses neither `unsafe` nor `reflect` (so Go's bounds checks turn any
access outside the buffer into a panic). -/
theorem mask_bounds_checked : Facts.maskNoUnsafe = true := by decide

end SourceShape
