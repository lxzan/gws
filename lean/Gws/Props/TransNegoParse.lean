import Gws.Generated.Trans
import Gws.Lemmas.Nego
import Gws.Props.TransNego
/-!
# T3 — the extension-header parser and the two header generators (compress.go), translated from the source on every run,
equal the model

`permessageNegotiation` (the parser both sides run on the peer's `Sec-WebSocket-Extensions` value) is the defaults, the left
fold of the `switch pair[0]` over the `;`-separated parameters (= `Nego.applyParam`) and the two `SelectValue(x < 8, 8, x)`
lines (= `Nego.clamp8`); the fields the parser never assigns stay Go's zero values.  Composed with `server_getPD_eq` /
`client_getPD_eq` (TransNego): the translated `getPermessageDeflate` of either side, fed with what the TRANSLATED parser
makes of the header, is `Nego.serverGetPD` / `Nego.clientGetPD` of the raw header string.

In these three targets a Go string is `Nego.Str`; `internal.Split(·, ";")`, `strings.SplitN(·, "=", 2)`, `strconv.Atoi`,
`strconv.Itoa`, `strings.Join` are the model's own `Nego.split`, `Nego.splitN2` (through `goSplitN2`), `Nego.atoi`, `Nego.itoa`,
`Nego.join` — trusted as the reading of the Go library and compared with the real functions by the differential test.  What is
proved here is everything the three functions do AROUND those calls: which tokens are recognised and in which order, which
field each one sets, the `len(pair) == 2` guards, `WithDefault`/`Min`, the lower clamp, which options are emitted under which
condition and in which order.
-/
namespace TransEquiv

/-- the accumulator of the translated loop: the four fields the loop body assigns, in the (alphabetical) order in which
gotrans threads assigned variables -/
def pdAcc (o : Nego.PD) : Bool × Int × Bool × Int := (o.clientTakeover, o.clientBits, o.serverTakeover, o.serverBits)

theorem tokens :
    "permessage-deflate".toList = Nego.pmd ∧ "server_no_context_takeover".toList = Nego.sNoCtx
      ∧ "client_no_context_takeover".toList = Nego.cNoCtx ∧ "server_max_window_bits".toList = Nego.sBits
      ∧ "client_max_window_bits".toList = Nego.cBits ∧ "; ".toList = Nego.sep :=
  ⟨rfl, rfl, rfl, rfl, rfl, rfl⟩

-- `String.toList_ofList`: see `nego_literals` (Lemmas/Nego)
theorem sBits_eq : "server_max_window_bits=".toList = Nego.sBits ++ ['='] := by
  rw [Nego.sBits, Facts.pmdServerBits, String.toList_ofList, String.toList_ofList]; rfl

theorem cBits_eq : "client_max_window_bits=".toList = Nego.cBits ++ ['='] := by
  rw [Nego.cBits, Facts.pmdClientBits, String.toList_ofList, String.toList_ofList]; rfl

/-- `pair[0]` -/
theorem goSplitN2_key (s : Nego.Str) : (goSplitN2 s).getD 0 [] = (Nego.splitN2 s).1 := by
  unfold goSplitN2; rcases Nego.splitN2 s with ⟨k, _ | v⟩ <;> rfl

/-- `permessageNegotiation(str)` = `Nego.permessageNegotiation str`, field by field (the result is the tuple of all fields of
Go's `PermessageDeflate` in declaration order: Enabled, Level, Threshold, PoolSize, ServerContextTakeover,
ClientContextTakeover, ServerMaxWindowBits, ClientMaxWindowBits) -/
theorem permessageNegotiation_eq (str : Nego.Str) :
    Trans.permessageNegotiation str
      = (false, 0, 0, 0, (Nego.permessageNegotiation str).serverTakeover, (Nego.permessageNegotiation str).clientTakeover,
         (Nego.permessageNegotiation str).serverBits, (Nego.permessageNegotiation str).clientBits) := by
  unfold Trans.permessageNegotiation
  -- substitute the `let`s of the translated body, so that the loop is one `List.foldl`; it is taken out of the goal
  -- before anything is rewritten: its body is a big term
  simp only []
  generalize hr : List.foldl _ _ _ = r
  have hr' := hr.symm.trans (List.foldl_hom pdAcc (g₁ := Nego.applyParam) (init := Nego.parseInit) ?_)
  · -- after the loop: the lower clamp
    subst hr'
    simp only [pdAcc, Nego.permessageNegotiation, Nego.parseParams, Nego.clamp8]
    generalize List.foldl Nego.applyParam Nego.parseInit (Nego.split str) = r
    by_cases h1 : r.serverBits < 8 <;> by_cases h2 : r.clientBits < 8 <;> simp [h1, h2]
  · -- one iteration of the translated loop body = `Nego.applyParam`
    intro o s
    simp only [Nego.applyParam, pdAcc, tokens, goSplitN2_key, beq_iff_eq]
    by_cases h1 : (Nego.splitN2 s).1 = Nego.pmd
    · simp only [if_pos h1]
    simp only [if_neg h1]
    by_cases h2 : (Nego.splitN2 s).1 = Nego.sNoCtx
    · simp only [if_pos h2]
    simp only [if_neg h2]
    by_cases h3 : (Nego.splitN2 s).1 = Nego.cNoCtx
    · simp only [if_pos h3]
    simp only [if_neg h3]
    unfold goSplitN2 Trans.internal_Min Nego.imin Nego.withDefault
    by_cases h4 : (Nego.splitN2 s).1 = Nego.sBits
    · simp only [if_pos h4]; rcases Nego.splitN2 s with ⟨k, _ | v⟩ <;> simp
    simp only [if_neg h4]
    by_cases h5 : (Nego.splitN2 s).1 = Nego.cBits
    · simp only [if_pos h5]; rcases Nego.splitN2 s with ⟨k, _ | v⟩ <;> simp
    · simp only [if_neg h5]

theorem permessageNegotiation_of_model {str : Nego.Str} (r : Nego.PD) (h : Nego.permessageNegotiation str = r) :
    Trans.permessageNegotiation str = (false, 0, 0, 0, r.serverTakeover, r.clientTakeover, r.serverBits, r.clientBits) :=
  h ▸ permessageNegotiation_eq str

theorem append_ite {α : Type} (c : Prop) [Decidable c] (l a b : List α) :
    (if c then l ++ a else l ++ b) = l ++ if c then a else b := by
  split <;> rfl

theorem ite_snoc {α : Type} (c : Prop) [Decidable c] (l : List α) (t : α) :
    (if c then l ++ [t] else l) = l ++ if c then [t] else [] := by
  rw [← append_ite, List.append_nil]

/-- `(*PermessageDeflate).genRequestHeader()` = `Nego.genRequestHeader` -/
theorem genRequestHeader_eq (p : Nego.PD) :
    Trans.PermessageDeflate_genRequestHeader (c_ClientContextTakeover := p.clientTakeover) (c_ClientMaxWindowBits := p.clientBits)
        (c_ServerContextTakeover := p.serverTakeover) (c_ServerMaxWindowBits := p.serverBits)
      = Nego.genRequestHeader p := by
  -- the conditional appends (`if c { l = append(l, t) }`) become the model's concatenation of optional elements
  simp only [Trans.PermessageDeflate_genRequestHeader, ite_snoc, append_ite, List.nil_append]
  simp only [Nego.genRequestHeader, Nego.requestOptions, tokens, sBits_eq, cBits_eq, bne_iff_ne, ne_eq, List.append_assoc, List.singleton_append]

/-- `(*PermessageDeflate).genResponseHeader()` = `Nego.genResponseHeader` -/
theorem genResponseHeader_eq (p : Nego.PD) :
    Trans.PermessageDeflate_genResponseHeader (c_ClientContextTakeover := p.clientTakeover) (c_ClientMaxWindowBits := p.clientBits)
        (c_ServerContextTakeover := p.serverTakeover) (c_ServerMaxWindowBits := p.serverBits)
      = Nego.genResponseHeader p := by
  simp only [Trans.PermessageDeflate_genResponseHeader, ite_snoc, List.nil_append]
  simp only [Nego.genResponseHeader, Nego.responseOptions, tokens, sBits_eq, cBits_eq, bne_iff_ne, ne_eq, List.append_assoc, List.singleton_append]

/-- `Upgrader.getPermessageDeflate` with `clientPD` taken from the TRANSLATED parser run on the offer = `Nego.serverGetPD`
of the raw offer (`offered` = `strings.Contains(extensions, "permessage-deflate")` stays an input; `ext`: see
`server_getPD_eq`) -/
theorem server_getPD_parsed_eq (opt : Nego.PD) (extensions : Nego.Str) (level poolSize : Int) (ext : Hs.Str) :
    Trans.Upgrader_getPermessageDeflate ext
        (c_option_PermessageDeflate_ClientContextTakeover := opt.clientTakeover)
        (c_option_PermessageDeflate_ClientMaxWindowBits := opt.clientBits)
        (c_option_PermessageDeflate_Enabled := opt.enabled)
        (c_option_PermessageDeflate_Level := level) (c_option_PermessageDeflate_PoolSize := poolSize)
        (c_option_PermessageDeflate_ServerContextTakeover := opt.serverTakeover)
        (c_option_PermessageDeflate_ServerMaxWindowBits := opt.serverBits)
        (c_option_PermessageDeflate_Threshold := opt.threshold)
        (clientPD_ClientContextTakeover := (Trans.permessageNegotiation extensions).2.2.2.2.2.1)
        (clientPD_ServerContextTakeover := (Trans.permessageNegotiation extensions).2.2.2.2.1)
        (offered := Nego.contains extensions Nego.pmd)
      = ((Nego.serverGetPD opt extensions).enabled, level, (Nego.serverGetPD opt extensions).threshold, poolSize,
         (Nego.serverGetPD opt extensions).serverTakeover, (Nego.serverGetPD opt extensions).clientTakeover,
         (Nego.serverGetPD opt extensions).serverBits, (Nego.serverGetPD opt extensions).clientBits) := by
  rw [permessageNegotiation_eq]
  exact server_getPD_eq opt extensions level poolSize ext

/-- `connector.getPermessageDeflate` with `serverPD` taken from the TRANSLATED parser run on the response = `Nego.clientGetPD`
of the raw response -/
theorem client_getPD_parsed_eq (opt : Nego.PD) (extensions : Nego.Str) (level poolSize : Int) (ext : Hs.Str) :
    Trans.connector_getPermessageDeflate ext
        (c_option_PermessageDeflate_Enabled := opt.enabled)
        (c_option_PermessageDeflate_Level := level) (c_option_PermessageDeflate_PoolSize := poolSize)
        (c_option_PermessageDeflate_Threshold := opt.threshold)
        (serverPD_ClientContextTakeover := (Trans.permessageNegotiation extensions).2.2.2.2.2.1)
        (serverPD_ClientMaxWindowBits := (Trans.permessageNegotiation extensions).2.2.2.2.2.2.2)
        (serverPD_ServerContextTakeover := (Trans.permessageNegotiation extensions).2.2.2.2.1)
        (serverPD_ServerMaxWindowBits := (Trans.permessageNegotiation extensions).2.2.2.2.2.2.1)
        (offered := Nego.contains extensions Nego.pmd)
      = ((Nego.clientGetPD opt extensions).enabled, level, (Nego.clientGetPD opt extensions).threshold, poolSize,
         (Nego.clientGetPD opt extensions).serverTakeover, (Nego.clientGetPD opt extensions).clientTakeover,
         (Nego.clientGetPD opt extensions).serverBits, (Nego.clientGetPD opt extensions).clientBits) := by
  rw [permessageNegotiation_eq]
  exact client_getPD_eq opt extensions level poolSize ext

/-- the header a gws client generates, parsed by the translated parser, gives back what the header says: the translated
generator and the translated parser are the model's, so C12's round-trip theorems about `Nego` speak about them -/
theorem parse_genRequestHeader (p : Nego.PD) :
    Trans.permessageNegotiation (Trans.PermessageDeflate_genRequestHeader (c_ClientContextTakeover := p.clientTakeover)
        (c_ClientMaxWindowBits := p.clientBits) (c_ServerContextTakeover := p.serverTakeover) (c_ServerMaxWindowBits := p.serverBits))
      = (false, 0, 0, 0, (Nego.permessageNegotiation (Nego.genRequestHeader p)).serverTakeover,
         (Nego.permessageNegotiation (Nego.genRequestHeader p)).clientTakeover,
         (Nego.permessageNegotiation (Nego.genRequestHeader p)).serverBits,
         (Nego.permessageNegotiation (Nego.genRequestHeader p)).clientBits) := by
  rw [genRequestHeader_eq, permessageNegotiation_eq]

example : Trans.permessageNegotiation "permessage-deflate; client_max_window_bits=10; server_no_context_takeover".toList
    = (false, 0, 0, 0, false, true, 15, 10) :=
  permessageNegotiation_of_model ⟨false, false, true, 15, 10, 0⟩ (by nego_literals; decide +kernel)
example : Trans.permessageNegotiation
      "permessage-deflate; server_max_window_bits=3; client_max_window_bits; client_no_context_takeover; x=1".toList
    = (false, 0, 0, 0, true, false, 8, 15) :=
  permessageNegotiation_of_model ⟨false, true, false, 8, 15, 0⟩ (by nego_literals; decide +kernel)
example : Trans.permessageNegotiation "server_max_window_bits=0;client_max_window_bits=abc ; ;server_max_window_bits=11".toList
    = (false, 0, 0, 0, true, true, 11, 15) :=
  permessageNegotiation_of_model ⟨false, true, true, 11, 15, 0⟩ (by nego_literals; decide +kernel)
-- the generators' literals stand in their bodies
example : Trans.PermessageDeflate_genRequestHeader (c_ClientContextTakeover := true) (c_ClientMaxWindowBits := 15)
    (c_ServerContextTakeover := false) (c_ServerMaxWindowBits := 12)
    = "permessage-deflate; server_no_context_takeover; server_max_window_bits=12; client_max_window_bits".toList := by
  unfold Trans.PermessageDeflate_genRequestHeader; repeat rw [String.toList_ofList]
  decide +kernel
example : Trans.PermessageDeflate_genResponseHeader (c_ClientContextTakeover := true) (c_ClientMaxWindowBits := 9)
    (c_ServerContextTakeover := false) (c_ServerMaxWindowBits := 15)
    = "permessage-deflate; server_no_context_takeover; client_max_window_bits=9".toList := by
  unfold Trans.PermessageDeflate_genResponseHeader; repeat rw [String.toList_ofList]
  decide +kernel

end TransEquiv
