import Gws.Model.Session
import Gws.Props.C17
/-!
# C02 — the permessage-deflate context stays in sync (bookkeeping part)

Statement: when permessage-deflate is negotiated, every compressed message gws emits inflates to the
original payload under the RFC 7692 receiver algorithm with the negotiated parameters: the LZ77
history is exactly the payloads of the earlier compressed messages of that direction when that
direction keeps context (empty otherwise), and no back-reference reaches further than
2^max_window_bits bytes.  This holds after any history of interleaved traffic […].

This file proves the *bookkeeping*: after every operation sequence — data messages above and below
the threshold, control frames with payloads, broadcast frames built compressed or not, streamed
files, in any order — the sender's compression window and the receiver's decompression window are
both exactly the last 2^bits bytes of the RFC 7692 history of the direction, or both empty without
context takeover.  Hence the dictionary the sender compresses against is always a suffix of the
history an RFC 7692 receiver holds, which is the premise of the law about the DEFLATE library that
`Gws/Props/C05.lean` takes as its hypothesis `hL2` (the output inflates against any history the dictionary is a
suffix of, with distances ≤ 2^bits; `Model/Codec` keeps the library a parameter and states no law).  That law
about klauspost/flate is sampled (suites `write`, `sess`: every compressed frame the real gws emits
is inflated by the Lean RFC 1951 inflater against the unbounded history), not proved.
`Spec.Inflate.bounded_window_suffices` (Gws/Props/C02Inflate.lean) is the receiver half.
-/

namespace Session

theorem send_recv_same (c : Cfg) (w : Win) (op : Op) (hw : w.enabled = true → w.dict.length ≤ w.size) :
    sendUpdate c w op = recvUpdate c w op := by
  unfold sendUpdate recvUpdate
  split
  · cases op with
    | file cs => exact Win.foldl_write_eq w cs hw
    | data p => rfl
    | control p => rfl
    | bcast b p => rfl
  · rfl

structure InSync (c : Cfg) (s : St) : Prop where
  same : s.cps = s.dps
  on : c.enabled = true → c.takeover = true →
    s.cps.enabled = true ∧ s.cps.size = 2 ^ c.bits ∧ s.cps.dict = lastN (2 ^ c.bits) s.hist
  off : (c.enabled = false ∨ c.takeover = false) → s.cps = Win.disabled ∧ s.hist = []

theorem inSync_init (c : Cfg) : InSync c (St.init c) := by
  refine ⟨rfl, ?_, ?_⟩
  · intro he ht; simp [St.init, Cfg.winInit, he, ht, Win.init, lastN]
  · intro h; rcases h with h | h <;> simp [St.init, Cfg.winInit, h]

theorem Cfg.off_of_not_on (c : Cfg) (hk : ¬(c.enabled = true ∧ c.takeover = true)) :
    c.enabled = false ∨ c.takeover = false := by
  cases he : c.enabled <;> cases ht : c.takeover <;> simp_all

theorem inSync_step (c : Cfg) (s : St) (op : Op) (h : InSync c s) : InSync c (step c s op) := by
  obtain ⟨hsame, hon, hoff⟩ := h
  by_cases hk : c.enabled = true ∧ c.takeover = true
  · obtain ⟨he, hsz, hd⟩ := hon hk.1 hk.2
    have hinv : s.cps.dict.length ≤ s.cps.size := by rw [hd, hsz]; simp; omega
    have hsr := send_recv_same c s.cps op fun _ => hinv
    refine ⟨?_, ?_, ?_⟩
    · show sendUpdate c s.cps op = recvUpdate c s.dps op
      rw [hsr, hsame]
    · intro _ _
      show (sendUpdate c s.cps op).enabled = true ∧ (sendUpdate c s.cps op).size = 2 ^ c.bits ∧
        (sendUpdate c s.cps op).dict = lastN (2 ^ c.bits) (histUpdate c s.hist op)
      rw [hsr]
      unfold recvUpdate histUpdate
      by_cases hc : c.compresses op = true
      · simp only [hc, ↓reduceIte, hk.2, Bool.and_self]
        have hf := Win.write_frame s.cps op.payload
        refine ⟨by rw [hf.1, he], by rw [hf.2, hsz], ?_⟩
        rw [Win.write_spec _ _ he hinv, hsz, hd, lastN_lastN_append]
      · have hc0 : c.compresses op = false := by simpa using hc
        simp only [hc0, Bool.false_eq_true, ↓reduceIte, Bool.false_and]
        exact ⟨he, hsz, hd⟩
    · intro h; rcases h with h | h <;> simp_all
  · have hor := c.off_of_not_on hk
    obtain ⟨hdis, hh⟩ := hoff hor
    have hsr := send_recv_same c s.cps op (by simp [hdis, Win.disabled])
    have hrecv : recvUpdate c Win.disabled op = Win.disabled := by
      rw [recvUpdate, Win.write_off Win.disabled _ rfl, ite_self]
    have hhist : histUpdate c s.hist op = [] := by
      unfold histUpdate
      rcases hor with h | h
      · have : c.compresses op = false := by cases op <;> simp [Cfg.compresses, h]
        simp [this, hh]
      · simp [h, hh]
    refine ⟨?_, ?_, ?_⟩
    · show sendUpdate c s.cps op = recvUpdate c s.dps op
      rw [hsr, hsame]
    · intro he ht; exact absurd ⟨he, ht⟩ hk
    · intro _
      show sendUpdate c s.cps op = Win.disabled ∧ histUpdate c s.hist op = []
      rw [hsr, hdis, hrecv]; exact ⟨rfl, hhist⟩

/-- **C02, windows in sync.** After any sequence of operations of a direction — any interleaving of
data messages (above or below the threshold), control frames carrying payloads, broadcast frames
built compressed or uncompressed, and streamed files — the sender's compression window equals the
receiver's decompression window, and under context takeover both are exactly the last `2^bits` bytes
of the concatenated payloads of the compressed messages so far; otherwise both are empty. -/
theorem windows_in_sync (c : Cfg) (ops : List Op) : InSync c (ops.foldl (step c) (St.init c)) := by
  suffices ∀ s, InSync c s → InSync c (ops.foldl (step c) s) from this _ (inSync_init c)
  induction ops with
  | nil => intro s h; exact h
  | cons op ops ih => intro s h; exact ih _ (inSync_step c s op h)

/-- **The history is the compressed payloads, in order** (what RFC 7692 §7.2.2 prescribes). -/
theorem hist_is_compressed_payloads (c : Cfg) (s : St) (ops : List Op) (ht : c.takeover = true) :
    (ops.foldl (step c) s).hist = s.hist ++ (ops.filter c.compresses).flatMap Op.payload := by
  induction ops generalizing s with
  | nil => simp
  | cons op ops ih =>
    simp only [List.foldl_cons]
    rw [ih]
    simp only [step, histUpdate, ht, Bool.and_true, List.filter_cons]
    by_cases hc : c.compresses op = true <;> simp [hc, List.append_assoc]

/-- **The sender's dictionary is always a suffix of the RFC 7692 history** (or empty), of length at
most `2^bits`: exactly the premise under which the DEFLATE law says the emitted message inflates to
the payload under an unbounded-history receiver with distances ≤ 2^bits. -/
theorem send_dict_suffix (c : Cfg) (ops : List Op) (op : Op) :
    ((ops.foldl (step c) (St.init c)).sendDict op) <:+ (ops.foldl (step c) (St.init c)).hist ∧
    ((ops.foldl (step c) (St.init c)).sendDict op).length ≤ 2 ^ c.bits := by
  have hs := windows_in_sync c ops
  cases op with
  | bcast b p => exact ⟨List.nil_suffix, by simp [St.sendDict]⟩
  | data p | control p | file cs =>
    simp only [St.sendDict]
    by_cases hk : c.enabled = true ∧ c.takeover = true
    · obtain ⟨_, _, hd⟩ := hs.on hk.1 hk.2
      rw [hd]
      exact ⟨List.drop_suffix _ _, by simp; omega⟩
    · rw [(hs.off (c.off_of_not_on hk)).1]; simp [Win.disabled]

-- non-vacuity: a Ping payload does not enter the window; a broadcast built uncompressed neither
example : (([Op.control [1,2,3], .data [4,5], .bcast false [6], .bcast true [7], .file [[8],[9]]] : List Op).foldl
    (step ⟨true, true, 3, 512⟩) (St.init ⟨true, true, 3, 512⟩)).cps.dict = [4,5,7,8,9] := by decide

end Session
