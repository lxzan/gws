import Gws.Lemmas.Conc.ConnProps
/-!
# C09 — teardown: transport closed ⇒ flag set, `OnClose` once, no deadlock, termination

Statement: when a connection ends — by a local close, a peer Close frame, a read error or a write
error, in any interleaving and with transport faults anywhere — the transport is closed only after
the `closed` flag is set, `OnClose` runs exactly once with a non-nil error, teardown cannot deadlock
or loop, and once every goroutine has returned the transport is closed.

Model: `Conc.step` (Gws/Model/Conc/Conn.lean).  `no_deadlock`/`bounded_run` speak about the
model's actors under an arbitrary scheduler: some actor can always move, and every actor performs
a bounded number of actions (`steps`).  What this cannot exclude is an *environment* that never lets
a transport write return: see the witness `closer_blocked_behind_stalled_writer`, a genuine
limitation of gws recorded as a known finding (a local close needs `c.mu`, which a writer stalled
in `conn.Write` holds).

Panics in handlers and `ParallelEnabled` are outside this model (they have one of their own,
Props/C07Par.lean; how handlers that are still running meet teardown is tested, not proved).
-/

namespace Conc

/-- The transport is closed only by the CAS winner, hence only after the `closed` flag is set. -/
theorem transport_closed_implies_closed {s : State} (h : Reachable s) (ht : s.tclosed = true) :
    s.closed = true :=
  h.cinv.tclosed_closed ht

/-- **`OnClose` runs at most once, last, with a non-nil error.**  With one read loop (`Sched1R xs`:
the schedule spawns at most one `reader`): at most one `closedCb` is logged, nothing is logged after
it, and its argument is `true`: the stored cause (`Cb.closedCb false` would be the fallback
`errEmpty`; both are non-nil by construction of `Cb.closedCb`, and in this model, where the cause is stored
in the action that wins the CAS, the fallback is never needed). -/
theorem onclose_once_nonnil {xs : List Action} {s : State} (h : run {} xs = some s) (h1 : Sched1R xs) :
    (s.cbs.filter Cb.isClosed).length ≤ 1 ∧
    ∀ c, Cb.closedCb c ∈ s.cbs → s.cbs.getLast? = some (.closedCb c) ∧ c = true := by
  have hs := (cbShape_run h h1).closed_once
  exact ⟨hs.1, fun c hc => ⟨hs.2.2 c hc, (inv_run h).close.cb_cause c hc⟩⟩

/-- **No deadlock.**  In every reachable state in which some actor has not finished, some actor can
perform its next action: if `c.mu` is held its holder can always move (a transport write returns,
with or without error), otherwise every unfinished actor can. -/
theorem no_deadlock {s : State} (h : Reachable s) {a : Nat} (h1 : s.pc a ≠ .idle)
    (h2 : ∀ r, s.pc a ≠ .done r) : ∃ b f, (step s (.act b f)).isSome = true := by
  obtain ⟨xs, hr⟩ := h
  exact exists_enabled (inv_run hr).wf h1 h2

/-- **Teardown cannot loop.**  The measure `steps` (sum over the spawned actors of an upper bound on
their remaining actions) strictly decreases with every action of every actor.  (`Reachable s` is
needed: in the unreachable state with an actor at `fCheck 5 2` — frame index beyond the last frame —
the model's `WriteFile` would go on forever; see `bounded_run_needs_reachable`.) -/
theorem bounded_run {s s' : State} (h : Reachable s) {a : Nat} {f : Bool}
    (hs : step s (.act a f) = some s') : steps s' < steps s :=
  steps_decreases (h.cinv.fcheck_le a) hs

/-- Witness that `bounded_run` needs its reachability hypothesis: from this state `steps` does not
decrease, and no measure could (`fCheck i n` with `i > n` never meets `i = n`, so the model's `WriteFile`
goes on for ever). -/
theorem bounded_run_needs_reachable :
    ∃ s s', step s (.act 1 false) = some s' ∧ s.pc 1 = .fCheck 5 2 ∧ s'.pc 1 = .fCheck 6 2 ∧ steps s' = steps s :=
  ⟨{ pcs := [(1, .fCheck 5 2)] }, ({ pcs := [(1, .fCheck 5 2)] } : State).push (.data 1 5 false) |>.setPc 1 (.fCheck 6 2),
    by decide, by decide, by decide, by decide⟩

/-- Hence every schedule of `act`s from a reachable state is finite, of length at most `steps s`. -/
theorem acts_are_bounded {s s' : State} {xs : List Action} (h : Reachable s) (hr : run s xs = some s')
    (ha : ∀ x ∈ xs, ∃ a f, x = Action.act a f) : xs.length ≤ steps s := by
  have := acts_bounded h.cinv hr ha
  omega

/-- **Teardown completes.**  Once every actor has returned and the connection is closed, the
transport is closed (the winner ran `conn.Close()`), and if a read loop was spawned the callback log
ends with `OnClose`. -/
theorem teardown_complete {xs : List Action} {s : State} (h : run {} xs = some s)
    (hall : ∀ a, s.pc a = .idle ∨ ∃ r, s.pc a = .done r) (hc : s.closed = true) :
    s.tclosed = true ∧
    ∀ a sc, Action.spawn a (.reader sc) ∈ xs → ∃ c, s.cbs.getLast? = some (.closedCb c) :=
  teardown h hall hc

/-- **Known limitation (witness).**  There is a reachable state in which a local close has won the
CAS and waits for `c.mu` (`kLock`), the lock is held by a writer that is inside its transport write
(`wWrite`), and the closer cannot move: a local close cannot complete until a stalled transport
write returns (the environment never scheduling actor 1).  No step of the model gets the closer
past this point; gws has no write deadline on this path. -/
theorem closer_blocked_behind_stalled_writer :
    ∃ s, Reachable s ∧ s.winner = some 2 ∧ s.pc 2 = .kLock (.ret .ok) ∧ s.pc 1 = .wWrite ∧
      s.tclosed = false ∧ ∀ f, step s (.act 2 f) = none := by
  refine ⟨(run {} [.spawn 1 (.write false), .spawn 2 .closer, .act 1 false, .act 2 false]).get (by decide),
    ⟨[.spawn 1 (.write false), .spawn 2 .closer, .act 1 false, .act 2 false], by decide⟩, by decide, by decide,
    by decide, by decide, ?_⟩
  intro f
  cases f <;> decide

/-- peer Close frame, read loop tears down: opened, message, closed; transport closed -/
example : (run {} [.spawn 1 (.reader [.msg, .peerClose]), .act 1 false, .act 1 false, .act 1 false, .act 1 false,
    .act 1 false, .act 1 false, .act 1 false, .act 1 false, .act 1 false]).map
    (fun s => (s.cbs, s.tclosed, s.pc 1, steps s)) =
    some ([.opened, .message, .closedCb true], true, .done .ok, 0) := by decide

/-- the write of the Close frame fails: teardown still completes -/
example : (run {} [.spawn 1 .closer, .act 1 false, .act 1 false, .act 1 true, .act 1 false]).map
    (fun s => (s.wire, s.tclosed, s.pc 1)) = some ([], true, .done .ioErr) := by decide

end Conc
