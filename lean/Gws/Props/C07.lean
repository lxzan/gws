import Gws.Lemmas.Conc.ConnProps
/-!
# C07 — callback lifecycle: OnOpen first, one callback per message in order, OnClose once and last

Statement: the event handler sees `OnOpen` first, then one callback per complete inbound message in
the order of arrival, then `OnClose` exactly once, and nothing after it — whatever writers and
closers do concurrently.

Model: the `reader` actor of `Conc.step` (Gws/Model/Conc/Conn.lean); its script is the sequence of
inbound items (`.msg` = a complete message, `.peerClose`, `.readErr`).  A callback is one atomic
action of the single read loop, so callbacks are sequential by construction; `ParallelEnabled`
(callbacks on other goroutines) and panics inside handlers (`Recovery`) are NOT in this model: their
clauses are proved about a transition system of their own (Props/C07Par.lean), and how parallel handlers
meet teardown is tested, not proved.  `Sched1R xs`: the schedule spawns at most one reader
(one `ReadLoop` per connection, as the API requires).  Invariant: `RInv` (Gws/Lemmas/Conc/ConnCb.lean).
-/

namespace Conc

/-- **Shape of the callback log.**  It is empty, or `opened`, then only `message`s, then nothing or
exactly one `closedCb`: open first, close at most once and last, everything else strictly between. -/
theorem callback_shape {xs : List Action} {s : State} (h : run {} xs = some s) (h1 : Sched1R xs) :
    s.cbs = [] ∨ ∃ m tail, s.cbs = .opened :: List.replicate m .message ++ tail ∧
      (tail = [] ∨ ∃ c, tail = [.closedCb c]) :=
  cbShape_run h h1

/-- `OnOpen` and `OnClose` are each logged at most once. -/
theorem open_close_at_most_once {xs : List Action} {s : State} (h : run {} xs = some s) (h1 : Sched1R xs) :
    (s.cbs.filter (· == .opened)).length ≤ 1 ∧ (s.cbs.filter Cb.isClosed).length ≤ 1 :=
  ⟨(cbShape_run h h1).closed_once.2.1, (cbShape_run h h1).closed_once.1⟩

/-- **A finished read loop has closed exactly once.**  When the reader (script `sc`) has returned,
the log is `opened`, one `message` per `.msg` item of the maximal `.msg`-prefix of the script (the
loop stops at the first item that is not a message, or at end of input), and one `closedCb`. -/
theorem reader_done_closed_once {xs : List Action} {s : State} (h : run {} xs = some s) (h1 : Sched1R xs)
    {a : Nat} {sc : List Inbound} (hk : Action.spawn a (.reader sc) ∈ xs) {r : Ret} (hd : s.pc a = .done r) :
    ∃ m rest c, sc = List.replicate m .msg ++ rest ∧ rest.head? ≠ some .msg ∧
      s.cbs = .opened :: List.replicate m .message ++ [.closedCb c] := by
  have := ((inv_run h).reader h1).reader a sc (kindMap_of_mem h a _ hk)
  rw [hd] at this
  exact this

/-- **One callback per consumed message, in order.**  While the reader is in its loop at `rLoop sc'`,
the script splits as `m` consumed `.msg` items followed by the unread rest `sc'`, and the log is
`opened` followed by exactly `m` `message` callbacks: the n-th callback belongs to the n-th message,
and a message is delivered before the next one is read. -/
theorem messages_in_wire_order {xs : List Action} {s : State} (h : run {} xs = some s) (h1 : Sched1R xs)
    {a : Nat} {sc sc' : List Inbound} (hk : Action.spawn a (.reader sc) ∈ xs) (hl : s.pc a = .rLoop sc') :
    ∃ m, sc = List.replicate m .msg ++ sc' ∧ s.cbs = .opened :: List.replicate m .message := by
  have := ((inv_run h).reader h1).reader a sc (kindMap_of_mem h a _ hk)
  rw [hl] at this
  exact this

/-- two messages then a read error, with a concurrent writer: o, m, m, x -/
example : (run {} [.spawn 1 (.reader [.msg, .msg, .readErr]), .spawn 2 (.write false), .act 1 false, .act 2 false,
    .act 1 false, .act 1 false, .act 2 false, .act 1 false, .act 1 false, .act 1 false, .act 1 false, .act 1 false,
    .act 1 false]).map (fun s => (s.cbs, s.pc 1)) =
    some ([.opened, .message, .message, .closedCb true], .done .ok) := by decide

example : Sched1R [.spawn 1 (.reader [.msg, .msg, .readErr]), .spawn 2 (.write false), .act 1 false] := by
  intro a b sa sb ha hb
  simp at ha hb
  omega

end Conc
