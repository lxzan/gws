import Gws.Basic
import Gws.Model.Conc.TaskQueue
/-!
# C15 — async task queue: every task once, one at a time, in FIFO order, none stranded

Statement: tasks submitted to a connection's asynchronous queue each run exactly once, never two at
a time, in submission order, for any interleaving of submitters and task completions.  A task
submitted at the very moment the worker finds the queue empty is not stranded: it runs without
needing a further submission.

The theorems quantify over every finite sequence of the two atomic actions (`push j` by any
goroutine, `next j` by the worker holding `j`) — i.e. over every interleaving of submitters and
completions, with no bound on length — for every `maxConcurrency ≥ 1` (gws uses 1: `Facts`).
-/

namespace TQ

structure Inv (s : TQ) : Prop where
  cur_eq : s.cur = s.running.length
  cur_le : s.cur ≤ s.max
  fifo : s.submitted = s.started ++ s.q
  nostrand : s.q ≠ [] → s.cur = s.max
  run_fin : s.started.Perm (s.finished ++ s.running)

/-- what one critical section does: only `q` and `cur` change, in one of three ways -/
theorem getJob_cases (s : TQ) (nj : Option Nat) (d : Int) :
    ∃ q' cur' out, s.getJob nj d = ({ s with q := q', cur := cur' }, out) ∧
    ((s.cur + d ≥ s.max ∧ out = none ∧ q' = enq s.q nj ∧ cur' = s.cur + d) ∨
     (s.cur + d < s.max ∧ enq s.q nj = [] ∧ out = none ∧ q' = [] ∧ cur' = s.cur + d) ∨
     (s.cur + d < s.max ∧ ∃ j, enq s.q nj = j :: q' ∧ out = some j ∧ cur' = s.cur + d + 1)) := by
  unfold TQ.getJob
  simp only
  split
  · rename_i h; exact ⟨_, _, _, rfl, Or.inl ⟨h, rfl, rfl, rfl⟩⟩
  · rename_i h
    split
    · rename_i hq; exact ⟨_, _, _, rfl, Or.inr (Or.inl ⟨by omega, hq, rfl, hq, rfl⟩)⟩
    · rename_i j rest hq; exact ⟨_, _, _, rfl, Or.inr (Or.inr ⟨by omega, j, hq, rfl, rfl⟩)⟩

theorem Inv.q_nil {s : TQ} (h : Inv s) (hlt : s.cur < s.max) : s.q = [] := by
  cases hq : s.q with
  | nil => rfl
  | cons y ys => have := h.nostrand (by simp [hq]); omega

theorem step_push (s : TQ) (j : Nat) (h : Inv s) :
    s.step (.push j) = some
      (if s.cur < s.max then
        { s with cur := s.cur + 1, running := j :: s.running, started := s.started ++ [j], submitted := s.submitted ++ [j] }
       else { s with q := s.q ++ [j], submitted := s.submitted ++ [j] }) := by
  simp only [step, getJob, enq_some, Int.add_zero, ge_iff_le]
  split
  · rename_i hc; rw [if_neg (by omega)]; rfl
  · rename_i hc; rw [if_pos (by omega), h.q_nil (by omega)]; rfl

theorem step_next (s : TQ) (j : Nat) (h : Inv s) (hj : j ∈ s.running) :
    s.step (.next j) = some
      (match s.q with
       | [] => { s with cur := s.cur - 1, running := s.running.erase j, finished := s.finished ++ [j] }
       | x :: q => { s with q := q, running := x :: s.running.erase j, started := s.started ++ [x],
                            finished := s.finished ++ [j] }) := by
  have := h.cur_le
  simp only [step, hj, if_true, getJob, enq_none, ge_iff_le]
  rw [if_neg (by omega)]
  cases s.q with
  | nil => rfl
  | cons x q =>
    have e : s.cur + -1 + 1 = s.cur := by omega
    simp only [handOut, e]

theorem inv_init (max : Int) (h : 1 ≤ max) : Inv (init max) := by
  constructor <;> simp [init]
  omega

theorem inv_step (s s' : TQ) (a : Act) (h : Inv s) (hs : s.step a = some s') :
    Inv s' ∧ s'.max = s.max := by
  have ⟨h1, h2, h3, h4, h5⟩ := h
  cases a with
  | push j =>
    rw [step_push s j h] at hs
    cases hs
    split
    · rename_i hlt
      have hq := h.q_nil hlt
      exact ⟨⟨by simp [h1], by simp; omega, by simp [h3, hq], fun hne => absurd hq hne, perm_start j h5⟩, rfl⟩
    · exact ⟨⟨h1, h2, by simp [h3], fun _ => show s.cur = s.max by omega, h5⟩, rfl⟩
  | next j =>
    by_cases hj : j ∈ s.running
    · have hlen : (s.running.erase j).length = s.running.length - 1 := List.length_erase_of_mem hj
      have hpos : 0 < s.running.length := List.length_pos_of_mem hj
      rw [step_next s j h hj] at hs
      cases hs
      cases hq : s.q with
      | nil =>
        exact ⟨⟨by simp [hlen]; omega, by simp; omega, by simpa [hq] using h3, fun hne => absurd rfl hne,
          perm_finish hj h5⟩, rfl⟩
      | cons x q =>
        have := h4 (by simp [hq])
        exact ⟨⟨by simp [hlen]; omega, h2, by simp [h3, hq], fun _ => this, perm_start x (perm_finish hj h5)⟩, rfl⟩
    · simp [step, hj] at hs

theorem run_cons (s : TQ) (a : Act) (as : List Act) : s.run (a :: as) = (s.step a).bind fun s' => s'.run as := by
  simp only [run]; cases s.step a <;> rfl

theorem inv_run_from (s0 : TQ) (hi : Inv s0) (as : List Act) (s : TQ) (h : s0.run as = some s) :
    Inv s ∧ s.max = s0.max :=
  run_invariant (P := fun _ s => Inv s ∧ s.max = s0.max) (fun _ => rfl) run_cons
    (fun s a _ s' hP hs => ⟨(inv_step s s' a hP.1 hs).1, (inv_step s s' a hP.1 hs).2.trans hP.2⟩)
    as s0 s ⟨hi, rfl⟩ h

/-- **Every reachable state.** After any sequence of `push`/`next` actions from the initial state
(any interleaving of any number of submitters with task completions), the invariant holds. -/
theorem inv_run (max : Int) (hmax : 1 ≤ max) (as : List Act) (s : TQ) (h : (init max).run as = some s) :
    Inv s ∧ s.max = max :=
  inv_run_from (init max) (inv_init max hmax) as s h

/-- **Exactly once, in submission order, none lost.** In every reachable state the jobs handed to
workers so far followed by the queued ones are exactly the submitted ones, in submission order: so
the start order is a prefix of the submission order (FIFO), a job starts at most once per
submission, and no submitted job disappears. -/
theorem fifo_exactly_once (max : Int) (hmax : 1 ≤ max) (as : List Act) (s : TQ) (h : (init max).run as = some s) :
    s.submitted = s.started ++ s.q ∧ s.started <+: s.submitted ∧ s.started.Perm (s.finished ++ s.running) := by
  have hi := (inv_run max hmax as s h).1
  exact ⟨hi.fifo, ⟨s.q, hi.fifo.symm⟩, hi.run_fin⟩

/-- **Never two at a time** (for gws's `maxConcurrency = 1`): at most one job is held by a worker in
any reachable state; in general at most `max`. -/
theorem bounded_concurrency (max : Int) (hmax : 1 ≤ max) (as : List Act) (s : TQ) (h : (init max).run as = some s) :
    (s.running.length : Int) ≤ max := by
  obtain ⟨hi, hm⟩ := inv_run max hmax as s h
  have := hi.cur_eq; have := hi.cur_le; omega

theorem one_at_a_time (as : List Act) (s : TQ) (h : (init 1).run as = some s) : s.running.length ≤ 1 := by
  have := bounded_concurrency 1 (by omega) as s h; omega

/-- **No stranded task.** Whenever a job is queued, all `max ≥ 1` workers are alive and each holds a
job; every one of them will call `getJob(nil, -1)` when its job returns (`next` is enabled for it),
so the queued job does not need a further submission to be picked up. -/
theorem no_stranded_task (max : Int) (hmax : 1 ≤ max) (as : List Act) (s : TQ) (h : (init max).run as = some s)
    (hq : s.q ≠ []) : ∃ j, j ∈ s.running ∧ (s.step (.next j)).isSome := by
  obtain ⟨hi, hm⟩ := inv_run max hmax as s h
  have h1 := hi.nostrand hq
  have h2 := hi.cur_eq
  have : 0 < s.running.length := by omega
  obtain ⟨j, hj⟩ := List.exists_mem_of_length_pos this
  exact ⟨j, hj, by simp [step, hj]⟩

theorem drain_spec (n : Nat) (s : TQ) (hmax : 1 ≤ s.max) (hi : Inv s) (hn : s.q.length + s.running.length ≤ n) :
    Inv (drain n s) ∧ (drain n s).q = [] ∧ (drain n s).running = [] ∧ (drain n s).submitted = s.submitted ∧
    (drain n s).max = s.max := by
  induction n generalizing s with
  | zero =>
    have hq : s.q = [] := List.eq_nil_of_length_eq_zero (by omega)
    have hr : s.running = [] := List.eq_nil_of_length_eq_zero (by omega)
    simp [drain, hi, hq, hr]
  | succ n ih =>
    unfold drain
    cases hr : s.running with
    | nil =>
      have := hi.cur_eq
      exact ⟨hi, hi.q_nil (by simp [hr] at this; omega), hr, rfl, rfl⟩
    | cons j rest =>
      have hj : j ∈ s.running := by simp [hr]
      have hs' := step_next s j hi hj
      simp only [hs']
      have hi' := (inv_step s _ (.next j) hi hs').1
      have hlen : (s.running.erase j).length = s.running.length - 1 := List.length_erase_of_mem hj
      have hpos : 0 < s.running.length := List.length_pos_of_mem hj
      -- queue empty or not, the measure decreases by exactly one and `submitted`, `max` are untouched
      cases hq : s.q <;> simp only [hq] at hi' ⊢ <;> exact ih _ hmax hi' (by simp [hlen, hq] at hn ⊢; omega)

/-- **Drains.** From any reachable state, letting the running jobs complete one after another —
every such `next` is enabled — empties the queue within `|q| + |running|` completions, with every
submitted job started and finished exactly once, in submission order. No further `push` is needed. -/
theorem drains (max : Int) (hmax : 1 ≤ max) (as : List Act) (s : TQ) (h : (init max).run as = some s) :
    let d := drain (s.q.length + s.running.length) s
    d.q = [] ∧ d.running = [] ∧ d.started = s.submitted ∧ d.finished.Perm s.submitted := by
  obtain ⟨hi, hm⟩ := inv_run max hmax as s h
  intro d
  obtain ⟨hid, hq, hr, hsub, -⟩ := drain_spec _ s (by omega) hi (Nat.le_refl _)
  have hf := hid.fifo
  have hp := hid.run_fin
  simp only [hq, hr, List.append_nil] at hf hp
  refine ⟨hq, hr, ?_, ?_⟩
  · show d.started = s.submitted
    rw [← hsub]; exact hf.symm
  · show d.finished.Perm s.submitted
    rw [← hsub, hf]; exact hp.symm

-- non-vacuity: the lost-wake-up schedule — the worker finishes job 1 while job 2 is being pushed
example : ((init 1).run [.push 1, .push 2, .next 1]).map (fun s => (s.running, s.q, s.started)) = some ([2], [], [1, 2]) := by decide
example : ((init 1).run [.push 1, .next 1, .push 2]).map (fun s => (s.running, s.q, s.started)) = some ([2], [], [1, 2]) := by decide
example : ((init 1).run [.push 1, .push 2, .push 3]).map (fun s => (s.running, s.q)) = some ([1], [2, 3]) := by decide

end TQ
