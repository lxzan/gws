import Gws.Generated.Trans
import Gws.Model.Conc.Map
/-!
# T3 — the shard index of `ConcurrentMap.GetSharding` (session_storage.go), translated from the source on every run,
equals the model's `Cfg.idx` (hash AND (num - 1)), which C19 proves to be `hash mod num` and in range.
-/
namespace TransEquiv

/-- `hpos` always holds (`CMap.Cfg.num_pos`); it is a hypothesis because this file imports the model only -/
theorem shardIndex_eq (c : CMap.Cfg) (k : Nat) (hh : c.hash k < 2 ^ 64) (hn : c.num < 2 ^ 64) (hpos : 0 < c.num) :
    Trans.ConcurrentMap_shardIndex (UInt64.ofNat c.num) (UInt64.ofNat (c.hash k)) = .ok (UInt64.ofNat (c.idx k)) := by
  unfold Trans.ConcurrentMap_shardIndex CMap.Cfg.idx
  show Except.ok _ = Except.ok _
  congr 1
  apply UInt64.toNat_inj.mp
  have h1 : (UInt64.ofNat c.num - 1).toNat = c.num - 1 := by
    rw [UInt64.toNat_sub_of_le]
    · simp; omega
    · rw [UInt64.le_iff_toNat_le]; simp; omega
  rw [UInt64.toNat_and, h1]
  have hm1 : c.hash k % 18446744073709551616 = c.hash k := Nat.mod_eq_of_lt (by omega)
  have : (c.hash k &&& (c.num - 1)) ≤ c.hash k := Nat.and_le_left
  have hm3 : (c.num - 1) % 18446744073709551616 = c.num - 1 := Nat.mod_eq_of_lt (by omega)
  simp [hm1, hm3]

end TransEquiv
