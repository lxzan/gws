import Gws.Lemmas.Conc.ConnProps
/-!
# C08 — concurrent writers: whole frames, messages not interleaved, success ⇔ message on the wire

Statement: for any interleaving of `WriteMessage`/`Writev`/`WriteFile`/broadcast calls, closes and
the read loop, the bytes handed to the transport are a sequence of whole frames; the frames of one
`WriteFile` are adjacent and in order with FIN exactly on the last; a write call returns `nil` iff
its complete message is on the wire exactly once; a call rejected for its content wrote nothing.

Model: `Conc.step` (Gws/Model/Conc/Conn.lean).  The wire is *by construction* a list of whole frames
(`State.wire : List Frame`; one `Write` per frame is part of the trusted base); what can break
"whole frames" is a transport write that fails half-way, recorded in `partialAfter`.  Theorems hold
for every schedule and — except `wire_is_whole_frames` — every fault pattern.  Invariant: `DInv`
(Gws/Lemmas/Conc/ConnData.lean).

Not covered here: the *content* of each frame (C01/C02/C05), and freedom from data races on the memory
the writers share (the compression window): no model of this kind expresses it, it is observed with the
race detector (suite `racy`).
-/

namespace Conc

/-- `partialAfter` becomes set only by a transport write that the environment fails (`act a true` of
a lock holder on an open transport), and that action adds no frame to the wire. -/
theorem partial_only_by_failed_write {s s' : State} {x : Action} (h : step s x = some s') :
    s'.partialAfter = s.partialAfter ∨
      ∃ a, x = .act a true ∧ s.tclosed = false ∧ (s.pc a).holdsLock = true ∧ s'.wire = s.wire := by
  cases x with
  | spawn a k => obtain ⟨rfl, -⟩ := spawn_cases h; left; rfl
  | act a f =>
    obtain ⟨t, p', rfl, -, ht⟩ := act_cases h
    rcases ht.partial_cases with e | ⟨rfl, h1, h2, h3⟩
    · left; simpa using e
    · right; exact ⟨a, rfl, h1, h2, by simpa using h3⟩

/-- **The wire is a sequence of whole frames.**  `State.wire` is a list of frames by construction
(each accepted transport write appends exactly one); the only way a partial frame can reach the
transport is a failed write, which the model records in `partialAfter`.  Without transport faults
(`NoFault xs`) no reachable state has a partial frame. -/
theorem wire_is_whole_frames {xs : List Action} {s : State} (h : run {} xs = some s) (hn : NoFault xs) :
    s.partialAfter = false := by
  revert hn
  refine run_induction (motive := fun xs s => NoFault xs → s.partialAfter = false) {} (fun _ => rfl)
    (fun xs s x s' _ hm hs hn => ?_) xs s h
  have ih := hm (fun y hy => hn y (List.mem_append_left _ hy))
  rcases partial_only_by_failed_write hs with e | ⟨a, rfl, -⟩
  · rw [e, ih]
  · exact (hn _ (by simp) a rfl).elim

/-- **The frames of one message are contiguous and in order.**  For every actor `a` spawned with kind
`k` (in particular `k = file n`, a `WriteFile` of `n+1` frames) the wire is
`pre ++ msgFrames a k.frames i ++ post` for some progress `i ≤ k.frames`: the data frames of `a` are
exactly frames `0 … i-1` of its message, adjacent, in order, FIN exactly on frame `k.frames - 1`,
and no other data frame of `a` is anywhere else on the wire — for every interleaving and fault. -/
theorem file_frames_contiguous {xs : List Action} {s : State} (h : run {} xs = some s) {a : Nat} {k : Kind}
    (hk : Action.spawn a k ∈ xs) :
    ∃ i pre post, i ≤ k.frames ∧ s.wire = pre ++ msgFrames a k.frames i ++ post ∧
      NoData a pre ∧ NoData a post := by
  obtain ⟨i, pre, post, hw, h1, h2, h3⟩ := dclause_of_spawned h hk
  exact ⟨i, pre, post, h3.1, hw, h1, h2⟩

/-- Data frames on the wire belong to spawned write calls only (never to a closer or the read loop). -/
theorem data_frames_owned_by_writers {xs : List Action} {s : State} (h : run {} xs = some s) {a j : Nat}
    {l : Bool} (hf : Frame.data a j l ∈ s.wire) : ∃ k, Action.spawn a k ∈ xs ∧ k.isWriter = true := by
  obtain ⟨i, post, h3, hfil⟩ := ((inv_run h).data a).data_frames
  -- a frame of `a`'s message is written, so the message has frames, which only a writer's has
  have hpos : 0 < framesN (kindMap xs) a := by
    have := (data_of_filter hfil hf).1
    have := h3.1
    omega
  unfold framesN at hpos
  cases hk : kindMap xs a with
  | none => simp [hk] at hpos
  | some k =>
    refine ⟨k, kindMap_mem hk, ?_⟩
    cases k <;> simp_all [Kind.frames, Kind.isWriter]

/-- **Success iff the message is on the wire once.**  For a finished write call (`write r`, `file n`
or `bcast`; `done r`): it returned `nil` iff the data frames of `a` on the wire are exactly its
complete message, each frame once, in order; and if it returned an error, none of its FIN frames is
on the wire (the peer never sees the message completed). -/
theorem success_iff_one_message {xs : List Action} {s : State} (h : run {} xs = some s) {a : Nat} {k : Kind}
    (hk : Action.spawn a k ∈ xs) (hw : k.isWriter = true) {r : Ret} (hd : s.pc a = .done r) :
    (r = .ok ↔ s.wire.filter (isDataOf a) = msgFrames a k.frames k.frames) ∧
    (r ≠ .ok → ∀ j, Frame.data a j true ∉ s.wire) := by
  obtain ⟨i, post, h3, hfil⟩ := (dclause_of_spawned h hk).data_frames
  have hN : 1 ≤ k.frames := by cases k <;> simp_all [Kind.frames, Kind.isWriter]
  rw [hd] at h3
  constructor
  · -- the call returns `ok` exactly at progress `i = k.frames`
    rw [hfil, msgFrames_inj]
    cases r <;> simp [Prog] at h3 ⊢ <;> omega
  · intro hne j hj
    -- a FIN frame of `a` on the wire is the last frame of its message: then `i = k.frames`
    obtain ⟨hji, e⟩ := data_of_filter hfil hj
    have : j + 1 = k.frames := by simpa using e.symm
    cases r <;> simp [Prog] at h3 hne <;> omega

/-- **A call rejected for its content wrote no bytes**: after `ErrTextEncoding`/`ErrMessageTooLarge`
(`done rejected`) no data frame of the call is on the wire.  (The call does run `emitError`, so a
Close frame may be.) -/
theorem content_rejected_no_bytes {s : State} (h : Reachable s) {a : Nat} (hd : s.pc a = .done .rejected) :
    ∀ f ∈ s.wire, isDataOf a f = false := by
  obtain ⟨xs, hr⟩ := h
  obtain ⟨i, post, h3, hfil⟩ := ((inv_run hr).data a).data_frames
  rw [hd] at h3
  obtain rfl : i = 0 := by simpa [Prog] using h3.2
  simpa using List.filter_eq_nil_iff.1 hfil

/-- Witness that the previous theorem is about *data* frames only: the rejected call runs
`emitError`, may win the CAS, and then a Close frame owned by it is on the wire. -/
theorem rejected_call_may_send_close_frame :
    ∃ s, Reachable s ∧ s.pc 1 = .done .rejected ∧ Frame.close 1 ∈ s.wire :=
  ⟨(run {} [.spawn 1 (.write true), .act 1 false, .act 1 false, .act 1 false, .act 1 false, .act 1 false]).get
      (by decide),
    ⟨[.spawn 1 (.write true), .act 1 false, .act 1 false, .act 1 false, .act 1 false, .act 1 false], by decide⟩,
    by decide, by decide⟩

/-- a `WriteFile` of 3 frames racing with a single-frame writer: the writer's frame is not in between -/
example : (run {} [.spawn 1 (.file 2), .spawn 2 (.write false), .act 1 false, .act 1 false, .act 1 false,
    .act 1 false, .act 2 false, .act 2 false]).map (fun s => (s.wire, s.pc 1, s.pc 2)) =
    some ([.data 1 0 false, .data 1 1 false, .data 1 2 true, .data 2 0 true], .done .ok, .done .ok) := by decide

/-- a fault in the second frame of a `WriteFile`: error returned, no FIN frame, a partial frame possible -/
example : (run {} [.spawn 1 (.file 2), .act 1 false, .act 1 false, .act 1 true]).map
    (fun s => (s.wire, s.partialAfter, s.pc 1)) =
    some ([.data 1 0 false], true, .cCas (.ret .ioErr)) := by decide

/-- a rejected write: no data frame, but the close sequence it triggers writes a Close frame -/
example : (run {} [.spawn 1 (.write true), .act 1 false, .act 1 false, .act 1 false, .act 1 false,
    .act 1 false]).map (fun s => (s.wire, s.pc 1)) = some ([.close 1], .done .rejected) := by decide

example : msgFrames 7 3 3 = [.data 7 0 false, .data 7 1 false, .data 7 2 true] := by decide

end Conc
