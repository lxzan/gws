import Gws.Props.TransFrame
import Gws.Model.ReaderStep
/-!
# T3 — the header checks of `readMessage` / `readControl`, translated from reader.go on every run,
equal the model's `Reader.headerCheck`, the control/data dispatch of `Reader.step` and the guards of
`Reader.readControl` (the functions C03/C04/C13 are proved about).
-/
-- simp arguments that are idle under today's translation are the ones another spelling of the same Go code needs
set_option linter.unusedSimpArgs false

namespace TransEquiv

/-- the Go error value an `End` returned by `Reader.headerCheck` stands for: that is a `.status`
(`Reader.headerCheck_some_err`), and the second line is there only to make the function total -/
def errOfEnd : Reader.End → Option GoErr
  | .err (.status c) => some (.status (UInt16.ofNat c))
  | _ => some .io

/-- the header checks of `readMessage` as the tests they are, in the code's order (no model function occurs) -/
theorem readMessage_header_cases (readMax len : Int) (fh : List UInt8) (pd sv : Bool) (rc : Option GoErr) :
    Trans.Conn_readMessage_header (c_config_ReadMaxPayloadSize := readMax) (c_fh := fh) (c_pd_Enabled := pd)
        (c_isServer := sv) (contentLength := len) (readControlResult := rc) =
      if len < 0 ∨ len > readMax then .error (some (.status 1009))
      else if Trans.frameHeader_GetRSV2 fh = true ∨ Trans.frameHeader_GetRSV3 fh = true
          ∨ (Trans.frameHeader_GetRSV1 fh = true ∧
              ¬ (pd = true ∧ (Trans.frameHeader_GetOpcode fh = 1 ∨ Trans.frameHeader_GetOpcode fh = 2)))
        then .error (some (.status 1002))
      else if Trans.frameHeader_GetMask fh ≠ sv then .error (some (.status 1002))
      else if Trans.Opcode_isDataFrame (Trans.frameHeader_GetOpcode fh) = false then .error rc
      else .ok (Trans.frameHeader_GetOpcode fh, Trans.frameHeader_GetMask fh, pd && Trans.frameHeader_GetRSV1 fh) := by
  simp only [Trans.Conn_readMessage_header, Trans.Conn_checkMask]
  -- both sides are cascades of tests on the same Booleans and two integer comparisons; `grind` splits whatever
  -- nesting the translated side has
  grind

/-- `readMessage` between `Parse` and the payload read = `Reader.headerCheck` followed by the control / data
dispatch of `Reader.step`.  `fh` is the header array, `h` the model's parsed header with the same two bytes. -/
theorem readMessage_header_eq (cfg : Reader.Cfg) (h : Frame.Hdr) (fh : List UInt8) (rc : Option GoErr)
    (h0 : (goIdx fh 0).toNat = h.b0) (h1 : (goIdx fh 1).toNat = h.b1) :
    Trans.Conn_readMessage_header (c_config_ReadMaxPayloadSize := cfg.readMax) (c_fh := fh) (c_pd_Enabled := cfg.pdEnabled)
        (c_isServer := cfg.isServer) (contentLength := h.len) (readControlResult := rc) =
      match Reader.headerCheck cfg h with
      | some e => .error (errOfEnd e)
      | none =>
        if Frame.getOpcode h.b0 > Facts.dataFrameMaxOpcode then .error rc
        else .ok (Trans.frameHeader_GetOpcode fh, Frame.getMask h.b1, cfg.pdEnabled && Frame.getRSV1 h.b0) := by
  have hop : ∀ k : UInt8, Trans.frameHeader_GetOpcode fh = k ↔ Frame.getOpcode h.b0 = k.toNat := fun k => by
    rw [← h0, ← GetOpcode_eq, UInt8.toNat_inj]
  have hmk : Frame.getMask h.b1 ≠ cfg.isServer ↔
      (cfg.isServer = true ∧ ¬ Frame.getMask h.b1 = true) ∨ (¬ cfg.isServer = true ∧ Frame.getMask h.b1 = true) := by
    cases cfg.isServer <;> cases Frame.getMask h.b1 <;> decide
  have hdf : ∀ n : Nat, (decide (n ≤ Facts.dataFrameMaxOpcode) = false) ↔ n > Facts.dataFrameMaxOpcode := fun n => by
    simp
  have t1 : UInt8.toNat 1 = Facts.opText := rfl
  have t2 : UInt8.toNat 2 = Facts.opBinary := rfl
  rw [readMessage_header_cases]
  unfold Reader.headerCheck
  simp only [hop, t1, t2, GetRSV1_eq, GetRSV2_eq, GetRSV3_eq, GetMask_eq, isDataFrame_eq, h0, h1, ← hmk, hdf, GetOpcode_eq]
  -- now the same tests in the same order on both sides
  by_cases hl : h.len < 0 ∨ h.len > cfg.readMax
  · rw [if_pos hl, if_pos hl]; rfl
  rw [if_neg hl, if_neg hl]
  by_cases hr : Frame.getRSV2 h.b0 = true ∨ Frame.getRSV3 h.b0 = true ∨ Frame.getRSV1 h.b0 = true ∧
      ¬(cfg.pdEnabled = true ∧ (Frame.getOpcode h.b0 = Facts.opText ∨ Frame.getOpcode h.b0 = Facts.opBinary))
  · rw [if_pos hr, if_pos hr]; rfl
  rw [if_neg hr, if_neg hr]
  by_cases hm : Frame.getMask h.b1 ≠ cfg.isServer
  · rw [if_pos hm, if_pos hm]; rfl
  rw [if_neg hm, if_neg hm]

/-- the guards of `readControl` in front of the payload read = the first two tests of `Reader.readControl` -/
theorem readControl_guards_eq (fh : List UInt8) :
    Trans.Conn_readControl_guards fh =
      if !Frame.getFIN (goIdx fh 0).toNat then .error (some (.status (UInt16.ofNat Facts.closeProtocolError)))
      else if Frame.getLengthCode (goIdx fh 1).toNat > Facts.thresholdV1 then .error (some (.status (UInt16.ofNat Facts.closeProtocolError)))
      else .ok (Trans.frameHeader_GetLengthCode fh) := by
  unfold Trans.Conn_readControl_guards
  simp only [GetFIN_eq, ← GetLengthCode_eq, UInt8.lt_iff_toNat_lt, gt_iff_lt, Facts.thresholdV1, Facts.closeProtocolError]
  cases Frame.getFIN (goIdx fh 0).toNat <;> simp

example : Trans.Conn_readMessage_header (c_config_ReadMaxPayloadSize := 4096) (c_fh := [0x81, 0x85]) (c_pd_Enabled := false)
    (c_isServer := true) (contentLength := 5) (readControlResult := none) = .ok (1, true, false) := rfl
example : Trans.Conn_readMessage_header (c_config_ReadMaxPayloadSize := 4096) (c_fh := [0xC1, 0x85]) (c_pd_Enabled := false)
    (c_isServer := true) (contentLength := 5) (readControlResult := none) = .error (some (.status 1002)) := rfl
example : Trans.Conn_readMessage_header (c_config_ReadMaxPayloadSize := 4) (c_fh := [0x81, 0x85]) (c_pd_Enabled := false)
    (c_isServer := true) (contentLength := 5) (readControlResult := none) = .error (some (.status 1009)) := rfl

end TransEquiv
