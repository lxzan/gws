import Gws.Lemmas.Nego
/-!
# C12 — extension negotiation: both endpoints always hold the same parameters

Statement (properties.jsonl): for every pair of server and client compression settings, after a
gws-to-gws handshake both endpoints agree on whether compression is on, which directions keep
context and both window sizes.  Compression is on iff both sides enabled it, a direction keeps
context iff neither side declined it, and window sizes lie in 8..15.  Extension parameters are
understood regardless of their order and surrounding whitespace.

`handshake s c` (Gws/Model/Nego.lean) composes the code's own functions: option normalisation on
both sides, `genRequestHeader`, the server's `getPermessageDeflate` (which calls
`permessageNegotiation` on the offer), `genResponseHeader`, the client's `getPermessageDeflate`.
The settings `s c : PD` are arbitrary: any `Int` for both window sizes and the threshold.
White space is ASCII white space (see the model's header).
-/

namespace Nego

/-- **C12, agreement.** For all server settings `s` and client settings `c`, the two endpoints hold
the same `Enabled`; when it is on they also hold the same two takeover flags and the same two
window sizes. -/
theorem nego_agree (s c : PD) :
    (handshake s c).server.enabled = (handshake s c).client.enabled ∧
    ((handshake s c).server.enabled = true →
      (handshake s c).server.serverTakeover = (handshake s c).client.serverTakeover ∧
      (handshake s c).server.clientTakeover = (handshake s c).client.clientTakeover ∧
      (handshake s c).server.serverBits = (handshake s c).client.serverBits ∧
      (handshake s c).server.clientBits = (handshake s c).client.clientBits) := by
  by_cases h : s.enabled = true ∧ c.enabled = true
  · rw [handshake_on s c h.1 h.2]
    simp [agreed]
  · obtain ⟨h1, h2, _⟩ := handshake_off s c h
    rw [h1, h2]
    simp

/-- **C12, compression is on iff both sides enabled it** (stated for the server's view; by
`nego_agree` the client's view is the same). -/
theorem enabled_iff (s c : PD) :
    (handshake s c).server.enabled = true ↔ (s.enabled = true ∧ c.enabled = true) := by
  by_cases h : s.enabled = true ∧ c.enabled = true
  · rw [handshake_on s c h.1 h.2]
    simp [agreed, h]
  · obtain ⟨h1, _, _⟩ := handshake_off s c h
    rw [h1]
    simp [h]

theorem enabled_iff_client (s c : PD) :
    (handshake s c).client.enabled = true ↔ (s.enabled = true ∧ c.enabled = true) := by
  rw [← (nego_agree s c).1]; exact enabled_iff s c

/-- **C12, a direction keeps context iff neither side declined it**: when compression is on, each
takeover flag held by either endpoint is the conjunction of the two settings. -/
theorem takeover_iff (s c : PD) (h : (handshake s c).server.enabled = true) :
    ((handshake s c).server.serverTakeover = true ↔ (s.serverTakeover = true ∧ c.serverTakeover = true)) ∧
    ((handshake s c).server.clientTakeover = true ↔ (s.clientTakeover = true ∧ c.clientTakeover = true)) ∧
    ((handshake s c).client.serverTakeover = true ↔ (s.serverTakeover = true ∧ c.serverTakeover = true)) ∧
    ((handshake s c).client.clientTakeover = true ↔ (s.clientTakeover = true ∧ c.clientTakeover = true)) := by
  have he := (enabled_iff s c).1 h
  rw [handshake_on s c he.1 he.2]
  simp [agreed, and_comm]

/-- **C12, window sizes lie in 8..15** on both endpoints, for all integer settings. -/
theorem bits_range (s c : PD) (h : (handshake s c).server.enabled = true) :
    (8 ≤ (handshake s c).server.serverBits ∧ (handshake s c).server.serverBits ≤ 15) ∧
    (8 ≤ (handshake s c).server.clientBits ∧ (handshake s c).server.clientBits ≤ 15) ∧
    (8 ≤ (handshake s c).client.serverBits ∧ (handshake s c).client.serverBits ≤ 15) ∧
    (8 ≤ (handshake s c).client.clientBits ∧ (handshake s c).client.clientBits ≤ 15) := by
  have he := (enabled_iff s c).1 h
  obtain ⟨_, _, _, hs, hc, _⟩ := normServer_on s he.1
  rw [handshake_on s c he.1 he.2]
  simp only [setThreshold_update, agreed]
  exact ⟨hs, hc, hs, hc⟩

/-- Which sizes: both endpoints use the *server's* normalised settings — in range as configured,
otherwise 12 under takeover of that direction and 15 without. The limits in the client's offer
never lower them. -/
theorem bits_are_servers (s c : PD) (h : (handshake s c).server.enabled = true) :
    (handshake s c).client.serverBits = (normServer s).serverBits ∧
    (handshake s c).client.clientBits = (normServer s).clientBits ∧
    (handshake s c).server.serverBits = (normServer s).serverBits ∧
    (handshake s c).server.clientBits = (normServer s).clientBits := by
  have he := (enabled_iff s c).1 h
  rw [handshake_on s c he.1 he.2]
  simp [agreed]

/-- **C12, threshold.** An endpoint that compresses with context takeover compresses every message:
the server's threshold is 0 under server takeover, the client's under client takeover (with or
without compression negotiated; `setThreshold` is unconditional). -/
theorem threshold_zero_under_takeover (s c : PD) :
    ((handshake s c).server.serverTakeover = true → (handshake s c).server.threshold = 0) ∧
    ((handshake s c).client.clientTakeover = true → (handshake s c).client.threshold = 0) := by
  have hs : ∀ p : PD, (setThreshold true p).serverTakeover = true → (setThreshold true p).threshold = 0 := by
    intro p h; simp only [setThreshold_update] at h ⊢; simp [h]
  have hc : ∀ p : PD, (setThreshold false p).clientTakeover = true → (setThreshold false p).threshold = 0 := by
    intro p h; simp only [setThreshold_update] at h ⊢; simp [h]
  -- by unfolding, `(handshake s c).server` is `setThreshold true _` and `.client` is `setThreshold false _`
  exact ⟨hs _, hc _⟩

/-- Without takeover of its own direction an enabled endpoint keeps its configured threshold, or
the default 512 if that was not positive; in particular it is positive. -/
theorem threshold_without_takeover (s c : PD) (h : (handshake s c).server.enabled = true) :
    ((handshake s c).server.serverTakeover = false →
      (handshake s c).server.threshold = (if s.threshold ≤ 0 then defaultThreshold else s.threshold)) ∧
    ((handshake s c).client.clientTakeover = false →
      (handshake s c).client.threshold = (if c.threshold ≤ 0 then defaultThreshold else c.threshold)) := by
  have he := (enabled_iff s c).1 h
  rw [handshake_on s c he.1 he.2]
  simp only [setThreshold_update, agreed]
  constructor <;> intro h <;> simp [h, normServer, normClient, he.1, he.2]

/-- What is on the wire: the client offers iff it enabled compression, the server answers with the
extension header iff compression is on. -/
theorem headers_sent (s c : PD) :
    ((handshake s c).offer.isSome = true ↔ c.enabled = true) ∧
    ((handshake s c).response.isSome = true ↔ (s.enabled = true ∧ c.enabled = true)) := by
  constructor
  · cases hc : c.enabled with
    | false => simp [handshake, normClient_off c hc, hc]
    | true => simp [handshake, (normClient_on c hc).1]
  · by_cases h : s.enabled = true ∧ c.enabled = true
    · rw [handshake_on s c h.1 h.2]; simp [h]
    · rw [(handshake_off s c h).2.2]; simp [h]

/-- **C12, order and white space.** Take any two lists of parameters, each parameter padded on
both sides with any ASCII white space and the padded parameters joined with `;`. If the parameters
of one list are a permutation of the parameters of the other, `permessageNegotiation` returns the
same result for both header values. (Parameters are arbitrary strings without `;` — known or
unknown names, with or without `=value`, even empty.) -/
theorem parse_perm_ws (xs ys : List Item) (hx : ∀ i ∈ xs, i.Ok) (hy : ∀ i ∈ ys, i.Ok)
    (hperm : (xs.map Item.param).Perm (ys.map Item.param)) :
    permessageNegotiation (render xs) = permessageNegotiation (render ys) := by
  rw [permessageNegotiation_render xs hx, permessageNegotiation_render ys hy]
  apply parseParams_perm
  have := (hperm.map trim).filter (fun t => t ≠ [])
  simpa [List.map_map, Function.comp_def] using this

/-- Repeating a parameter changes nothing (the parser takes minima and conjunctions). -/
theorem parse_duplicate (ps : List Str) (p : Str) (hp : p ∈ ps) :
    parseParams (p :: ps) = parseParams ps := by
  rw [parseParams, List.foldl_cons, foldl_applyParam_mem hp, ← parseParams]

/-- Whatever the header value, the parsed window sizes lie in 8..15: non-numeric, zero and absent
values count as 15, values below 8 (including negative ones) are raised to 8. -/
theorem parse_bits_range (str : Str) :
    (8 ≤ (permessageNegotiation str).serverBits ∧ (permessageNegotiation str).serverBits ≤ 15) ∧
    (8 ≤ (permessageNegotiation str).clientBits ∧ (permessageNegotiation str).clientBits ≤ 15) := by
  have h1 : _ ≤ (15 : Int) := (foldl_applyParam_bits_le (split str) parseInit).1
  have h2 : _ ≤ (15 : Int) := (foldl_applyParam_bits_le (split str) parseInit).2
  simp only [permessageNegotiation, parseParams, clamp8]
  refine ⟨⟨?_, ?_⟩, ⟨?_, ?_⟩⟩ <;> split <;> omega

/-- A parameter with an unknown name is ignored, wherever it stands. -/
theorem parse_unknown_ignored (ps : List Str) (u : Str)
    (h1 : (splitN2 u).1 ≠ pmd) (h2 : (splitN2 u).1 ≠ sNoCtx) (h3 : (splitN2 u).1 ≠ cNoCtx)
    (h4 : (splitN2 u).1 ≠ sBits) (h5 : (splitN2 u).1 ≠ cBits) :
    parseParams (u :: ps) = parseParams ps := by
  unfold parseParams
  simp only [List.foldl_cons, applyParam_eq, act_unknown u h1 h2 h3 h4 h5, Act.apply]

/-- `strconv.Atoi(strconv.Itoa(n)) = n` for every int64 `n`: the numbers the generators write are
the numbers the parser reads. -/
theorem atoi_itoa_roundtrip (n : Int) (hlo : minInt64 ≤ n) (hhi : n ≤ maxInt64) : atoi (itoa n) = n :=
  atoi_itoa n hlo hhi

-- non-vacuity: compression does get negotiated, with and without takeover, with in- and
-- out-of-range settings; a one-sided handshake leaves it off; parsing is insensitive to layout.
example : (handshake ⟨true, true, true, 0, 9, 0⟩ ⟨true, false, true, 10, 100, 7⟩).server
    = ⟨true, false, true, 12, 9, 512⟩ := by rw [handshake_on _ _ rfl rfl]; decide +kernel
example : (handshake ⟨true, true, true, 0, 9, 0⟩ ⟨true, false, true, 10, 100, 7⟩).client
    = ⟨true, false, true, 12, 9, 0⟩ := by rw [handshake_on _ _ rfl rfl]; decide +kernel
example : (handshake ⟨true, true, true, 0, 9, 0⟩ ⟨true, false, true, 10, 100, 7⟩).offer
    = some "permessage-deflate; server_no_context_takeover; server_max_window_bits=10; client_max_window_bits".toList := by
  rw [handshake_on _ _ rfl rfl]; nego_literals; decide +kernel
example : (handshake ⟨true, true, true, 0, 9, 0⟩ ⟨true, false, true, 10, 100, 7⟩).response
    = some "permessage-deflate; server_no_context_takeover; server_max_window_bits=12; client_max_window_bits=9".toList := by
  rw [handshake_on _ _ rfl rfl]; nego_literals; decide +kernel
example : (handshake ⟨true, true, true, 15, 15, 0⟩ ⟨false, true, true, 15, 15, 0⟩).server.enabled = false :=
  (handshake_off _ _ (by decide)).1
example : (handshake ⟨false, true, true, 15, 15, 0⟩ ⟨true, true, true, 15, 15, 0⟩).client.enabled = false :=
  (handshake_off _ _ (by decide)).2.1
example : permessageNegotiation " client_max_window_bits=9 ;;\tserver_no_context_takeover ; x=1;server_max_window_bits=3".toList
    = ⟨false, false, true, 8, 9, 0⟩ := by nego_literals; decide +kernel
example : permessageNegotiation "server_max_window_bits=3;x=1 ; server_no_context_takeover;client_max_window_bits=9\r\n".toList
    = ⟨false, false, true, 8, 9, 0⟩ := by nego_literals; decide +kernel
-- white space is trimmed around a parameter, not inside it: `client_max_window_bits ` is an unknown name
example : permessageNegotiation "client_max_window_bits = 9".toList = ⟨false, true, true, 15, 15, 0⟩ := by
  nego_literals; decide +kernel
example : permessageNegotiation "server_max_window_bits=10; server_max_window_bits=12; client_max_window_bits=abc; client_max_window_bits=0".toList
    = ⟨false, true, true, 10, 15, 0⟩ := by nego_literals; decide +kernel

end Nego
