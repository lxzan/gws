import Gws.Props.TransParse
import Gws.Props.TransReader
import Gws.Props.TransControl
import Gws.Props.TransFragment
import Gws.Lemmas.ReaderHdr
import Gws.Lemmas.ReaderStep
/-!
# T3 — `readMessage` as the sequence of its translated segments equals the model's `Reader.step`

`Conn.readMessage` is, statement by statement, the sequence Parse → header checks → (control frame: `readControl`:
guards, body) | (data frame: payload read and unmasking → fragmentation state machine → `emitMessage`).  Every one of
these pieces is translated from the source (`Trans.*`).  `readMessageT` below puts the translated pieces in that order.
Written by hand in it are the hand-over of the local variables from one piece to the next and the `End` an error return of
a piece becomes.  `readMessageT` drops the error values themselves; which ones the pieces return is said by the theorems
about the pieces (`Parse_eq`, `readMessage_header_cases`, `readControl_guards_eq`, `readMessage_payload_eq`).
`Reader.step` is the function `readLoop` iterates and the C03/C04/C13/C16 theorems are about.
-/
namespace TransEquiv

/-- marks "the header segment handed over to readControl" in the `readControlResult` input of the header segment; the test
`e = toControl` in `readMessageT` is sound because no check of that segment returns a `.named` error
(`readMessage_header_cases`: they return statuses) -/
def toControl : Option GoErr := some (.named "readControl")

/-- the payload-read segment in closed form: `io.ReadFull` of `n` bytes, then unmasking.  `readMessage_eq_step` matches it
with the first half of `Reader.dataFrame`, whose `panic` branch is dead (`Reader.dataFrame_eq`) -/
theorem readMessage_payload_eq (fh rest : Bytes) (n : Nat) (maskOn : Bool) :
    Trans.Conn_readMessage_payload (c_fh := fh) (c_br := rest) (contentLength := (n : Int)) (maskEnabled := maskOn) =
      if rest.length < n then .error (rest, some GoErr.io)
      else .ok (rest.drop n, Trans.frameHeader_GetFIN fh,
        if maskOn then goMaskXOR (rest.take n) (Trans.frameHeader_GetMaskKey fh) else rest.take n) := by
  unfold Trans.Conn_readMessage_payload
  simp only [goReadN, List.length_replicate, Int.toNat_natCast]
  by_cases hr : rest.length < n
  · simp [hr]
  · simp only [hr, if_false, goCopy_fresh rest hr, List.drop_zero]
    cases maskOn
    · simp
    · simp only [if_true]
      rw [goCopy_full _ _ (by simp [goMaskXOR])]

def readMessageT (cfg : Reader.Cfg) (codec : Codec) (st : Reader.State) (fh : Bytes) (b : Bytes) : Reader.Step :=
  match Trans.frameHeader_Parse fh b with
  | (_, _, _, some _) => .stop [] Reader.ioErr
  | (fh', rest, len, none) =>
    match Trans.Conn_readMessage_header (c_config_ReadMaxPayloadSize := cfg.readMax) (c_fh := fh') (c_pd_Enabled := cfg.pdEnabled)
        (c_isServer := cfg.isServer) (contentLength := len) (readControlResult := toControl) with
    | .error e =>
      if e = toControl then
        -- `return c.readControl()`
        match Trans.Conn_readControl_guards fh' with
        | .error _ => .stop [] Reader.protoErr
        | .ok n => interpC cfg st (Trans.Conn_readControl_body CtlR.ret (ctlEv Reader.Ev.ping) (ctlEv Reader.Ev.pong) CtlR.close rest fh' n)
      else if e = some (.status 1009) then .stop [] Reader.tooLarge
      else .stop [] Reader.protoErr
    | .ok (opcode, maskEnabled, compressed) =>
      match Trans.Conn_readMessage_payload (c_fh := fh') (c_br := rest) (contentLength := len) (maskEnabled := maskEnabled) with
      | .error _ => .stop [] Reader.ioErr
      | .ok (rest', fin, p) =>
        interp cfg codec st rest'
          (Trans.Conn_readMessage_afterPayload Decision.ret Decision.emit
            (c_continuationFrame_initialized := st.cont.initialized) (c_continuationFrame_compressed := st.cont.compressed)
            (c_continuationFrame_opcode := UInt8.ofNat st.cont.opcode) (c_continuationFrame_buffer := st.cont.buffer)
            (c_config_ReadMaxPayloadSize := cfg.readMax) (opcode := opcode) (fin := fin) (p := p) (buf := p)
            (compressed := compressed))

/-- the composition of the translated segments of `readMessage` is `Reader.step`, for every input, configuration and
connection state (the continuation state holds an opcode the code stored, i.e. a byte; the header array has its 14 bytes) -/
theorem readMessage_eq_step (cfg : Reader.Cfg) (codec : Codec) (st : Reader.State) (fh b : Bytes)
    (hfh : fh.length = 14) (hst : st.cont.opcode < 256) :
    readMessageT cfg codec st fh b = Reader.step cfg codec st b := by
  unfold readMessageT Reader.step
  have hp := Parse_eq fh hfh b
  cases hparse : Frame.parse b with
  | needMore =>
    rw [hparse] at hp
    obtain ⟨c', r', e⟩ := hp
    simp only [e]
  | ok h rest =>
    rw [hparse] at hp
    obtain ⟨c', e, hl, h0, h1, hk⟩ := hp
    simp only [e]
    rw [readMessage_header_eq cfg h c' toControl h0 h1]
    cases hc : Reader.headerCheck cfg h with
    | some en =>
      simp only
      rcases Reader.headerCheck_some_err hc with rfl | rfl
      · simp [errOfEnd, Reader.tooLarge, toControl, Facts.closeMessageTooLarge]
      · simp [errOfEnd, Reader.protoErr, toControl, Facts.closeProtocolError]
    | none =>
      simp only
      have hlen := (Reader.headerCheck_none_bound hc).1
      obtain ⟨_, -, hh⟩ := Reader.parse_ok hparse
      by_cases hop : Frame.getOpcode h.b0 > Facts.dataFrameMaxOpcode
      · simp only [hop, if_true]
        rw [readControl_guards_eq, h0, h1]
        cases hfin : Frame.getFIN h.b0
        · simp [Reader.readControl, hfin]
        · by_cases hn : Frame.getLengthCode h.b1 > Facts.thresholdV1
          · simp [Reader.readControl, hfin, hn]
          · simp only [Bool.not_true, Bool.false_eq_true, if_false, hn]
            exact readControl_body_eq cfg st h c' rest hl h0 h1 hk hh.key_length hfin (by omega)
      · simp only [hop, if_false]
        have hl' : h.len = ((h.len.toNat : Nat) : Int) := by omega
        rw [hl', readMessage_payload_eq, Reader.dataFrame_eq]
        by_cases hr : rest.length < h.len.toNat
        · simp [hr]
        · simp only [hr, if_false, GetFIN_eq, h0]
          have hopc : (Trans.frameHeader_GetOpcode c').toNat = Frame.getOpcode h.b0 := by rw [GetOpcode_eq, h0]
          cases hm : Frame.getMask h.b1
          · simp only [Bool.false_eq_true, if_false]
            exact afterPayload_eq cfg codec st h _ _ _ _ hopc hst
          · simp only [if_true, (GetMaskKey_eq c').trans (hk hm), maskXOR_key _ _ (hh.key_length hm)]
            exact afterPayload_eq cfg codec st h _ _ _ _ hopc hst

end TransEquiv
