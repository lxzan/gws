import Gws.Generated.Trans
import Gws.Lemmas.Trans
import Gws.Model.Frame
/-!
# T3 — the frame-header code of types.go, translated from the source on every run, equals the model

`Trans.*` is regenerated from /repo by `tools/gotrans`; `Frame.*` is the hand-written model the
property theorems (C03, C04, C05, C13) are proved about.  Each theorem below is re-checked against
what the code says now; a change to a translated function that is not semantics-preserving breaks it.
-/
namespace TransEquiv

/-- what the head of `Gws/Model/Frame.lean` says of `shl8` / `shr8`: they are Go's `uint8` shifts by a constant below the width -/
theorem toNat_shl8 (x k : UInt8) (hk : k.toNat < 8) : (x <<< k).toNat = Frame.shl8 x.toNat k.toNat := by
  rw [UInt8.toNat_shiftLeft, Nat.mod_eq_of_lt hk, Nat.shiftLeft_eq]; rfl
theorem toNat_shr8 (x k : UInt8) (hk : k.toNat < 8) : (x >>> k).toNat = Frame.shr8 x.toNat k.toNat := by
  rw [UInt8.toNat_shiftRight, Nat.mod_eq_of_lt hk, Nat.shiftRight_eq_div_pow]; rfl

/-! The shift pairs of the getters as types.go spells them today, on a byte, are the model's getters on its numeric value.
The `Get*_eq` below do not go through these. -/

theorem getFIN_byte (b : UInt8) : ((b >>> (7 : UInt8)) == (1 : UInt8)) = Frame.getFIN b.toNat := by
  rw [u8_beq, toNat_shr8 _ _ (by decide)]; rfl
theorem getRSV1_byte (b : UInt8) : (((b <<< (1 : UInt8)) >>> (7 : UInt8)) == (1 : UInt8)) = Frame.getRSV1 b.toNat := by
  rw [u8_beq, toNat_shr8 _ _ (by decide), toNat_shl8 _ _ (by decide)]; rfl
theorem getRSV2_byte (b : UInt8) : (((b <<< (2 : UInt8)) >>> (7 : UInt8)) == (1 : UInt8)) = Frame.getRSV2 b.toNat := by
  rw [u8_beq, toNat_shr8 _ _ (by decide), toNat_shl8 _ _ (by decide)]; rfl
theorem getRSV3_byte (b : UInt8) : (((b <<< (3 : UInt8)) >>> (7 : UInt8)) == (1 : UInt8)) = Frame.getRSV3 b.toNat := by
  rw [u8_beq, toNat_shr8 _ _ (by decide), toNat_shl8 _ _ (by decide)]; rfl
theorem getOpcode_byte (b : UInt8) : ((b <<< (4 : UInt8)) >>> (4 : UInt8)).toNat = Frame.getOpcode b.toNat := by
  rw [toNat_shr8 _ _ (by decide), toNat_shl8 _ _ (by decide)]; rfl
theorem getLengthCode_byte (b : UInt8) : ((b <<< (1 : UInt8)) >>> (1 : UInt8)).toNat = Frame.getLengthCode b.toNat := by
  rw [toNat_shr8 _ _ (by decide), toNat_shl8 _ _ (by decide)]; rfl

/-! The translated getters are proved equal to the model's by evaluating BOTH sides on all 256 values of the byte they read
(by the kernel): these proofs do not depend on how the Go code spells the bit extraction (`x << 1 >> 7`, `x & 0x40 != 0`,
…), only on which byte it reads. -/

theorem GetFIN_eq (c : List UInt8) : Trans.frameHeader_GetFIN c = Frame.getFIN (goIdx c 0).toNat := by
  unfold Trans.frameHeader_GetFIN; generalize goIdx c 0 = b; revert b; apply u8_forall; decide +kernel
theorem GetRSV1_eq (c : List UInt8) : Trans.frameHeader_GetRSV1 c = Frame.getRSV1 (goIdx c 0).toNat := by
  unfold Trans.frameHeader_GetRSV1; generalize goIdx c 0 = b; revert b; apply u8_forall; decide +kernel
theorem GetRSV2_eq (c : List UInt8) : Trans.frameHeader_GetRSV2 c = Frame.getRSV2 (goIdx c 0).toNat := by
  unfold Trans.frameHeader_GetRSV2; generalize goIdx c 0 = b; revert b; apply u8_forall; decide +kernel
theorem GetRSV3_eq (c : List UInt8) : Trans.frameHeader_GetRSV3 c = Frame.getRSV3 (goIdx c 0).toNat := by
  unfold Trans.frameHeader_GetRSV3; generalize goIdx c 0 = b; revert b; apply u8_forall; decide +kernel
theorem GetOpcode_eq (c : List UInt8) : (Trans.frameHeader_GetOpcode c).toNat = Frame.getOpcode (goIdx c 0).toNat := by
  unfold Trans.frameHeader_GetOpcode; generalize goIdx c 0 = b; revert b; apply u8_forall; decide +kernel
theorem GetMask_eq (c : List UInt8) : Trans.frameHeader_GetMask c = Frame.getMask (goIdx c 1).toNat := by
  unfold Trans.frameHeader_GetMask; generalize goIdx c 1 = b; revert b; apply u8_forall; decide +kernel
theorem GetLengthCode_eq (c : List UInt8) : (Trans.frameHeader_GetLengthCode c).toNat = Frame.getLengthCode (goIdx c 1).toNat := by
  unfold Trans.frameHeader_GetLengthCode; generalize goIdx c 1 = b; revert b; apply u8_forall; decide +kernel

theorem GetMaskKey_eq (c : List UInt8) : Trans.frameHeader_GetMaskKey c = (c.drop 10).take 4 := by
  unfold Trans.frameHeader_GetMaskKey
  simp [List.take_drop]

theorem isDataFrame_eq (op : UInt8) : Trans.Opcode_isDataFrame op = decide (op.toNat ≤ Facts.dataFrameMaxOpcode) := by
  revert op; apply u8_forall; decide +kernel

/-- `SetLength` on a header whose length byte and extension are still zero: the three encodings of the model -/
theorem SetLength_eq (c0 : UInt8) (n : Nat) (hn : n < 2 ^ 63) :
    Trans.frameHeader_SetLength (c0 :: List.replicate 13 0) (UInt64.ofNat n) =
      if n ≤ Facts.thresholdV1 then (c0 :: UInt8.ofNat n :: List.replicate 12 0, 0)
      else if n ≤ Facts.thresholdV2 then (c0 :: 126 :: (Frame.u16be n ++ List.replicate 10 0), 2)
      else (c0 :: 127 :: (Frame.u64be n ++ List.replicate 4 0), 8) := by
  unfold Trans.frameHeader_SetLength
  have h64 : (UInt64.ofNat n).toNat = n := by simp; omega
  simp only [UInt64.le_iff_toNat_le, h64, Facts.thresholdV1, Facts.thresholdV2]
  by_cases h1 : n ≤ 125
  · simp [h1, goIdx]
  · by_cases h2 : n ≤ 65535
    · have hm : n % 65536 = n := Nat.mod_eq_of_lt (by omega)
      simp [h1, h2, goIdx, goCopy, goBytesU16BE, Frame.u16be, hm]
    · have hm : n % 18446744073709551616 = n := Nat.mod_eq_of_lt (by omega)
      simp [h1, h2, goIdx, goCopy, goBytesU64BE, Frame.u64be, hm]

/-- `GenerateHeader` on a fresh (zero) header array — how `genFrame`, `doWriteFile` and the broadcaster use it —
writes exactly the header of the model's `genHeader` into the first `headerLength` bytes and returns the mask
key it drew (little-endian bytes of the PRNG value) iff the sender is a client. -/
theorem GenerateHeader_eq (isServer fin compress : Bool) (opcode : UInt8) (n : Nat) (hn : n < 2 ^ 63) (maskNum : UInt32) :
    (Trans.frameHeader_GenerateHeader (List.replicate 14 0) isServer fin compress opcode (n : Int) maskNum).1.take
        (Trans.frameHeader_GenerateHeader (List.replicate 14 0) isServer fin compress opcode (n : Int) maskNum).2.1.toNat
      = Frame.genHeader isServer fin compress opcode.toNat n (goBytesU32LE maskNum)
    ∧ (Trans.frameHeader_GenerateHeader (List.replicate 14 0) isServer fin compress opcode (n : Int) maskNum).2.2
      = (if isServer then [] else goBytesU32LE maskNum) := by
  have h64 : goUIntOfInt64 (n : Int) = UInt64.ofNat n := by
    unfold goUIntOfInt64
    congr 1
    omega
  have r14 : List.replicate 14 (0 : UInt8) = 0 :: List.replicate 13 0 := rfl
  unfold Trans.frameHeader_GenerateHeader Frame.genHeader
  simp only [r14, List.set_cons_zero, h64, SetLength_eq _ n hn]
  have m126 : (126 : UInt8) ||| 128 = 254 := rfl
  have m127 : (127 : UInt8) ||| 128 = 255 := rfl
  have h3 : (n ≤ 125 ∧ n ≤ 65535) ∨ (¬ n ≤ 125 ∧ n ≤ 65535) ∨ (¬ n ≤ 125 ∧ ¬ n ≤ 65535) := by omega
  rcases h3 with ⟨h1, h2⟩ | ⟨h1, h2⟩ | ⟨h1, h2⟩ <;> cases isServer <;>
    simp [h1, h2, Facts.thresholdV1, Facts.thresholdV2, goIdx, goCopy, goBytesU32LE, Frame.u16be, Frame.u64be,
      m126, m127]
  -- what is left is byte 0, the flags added to the opcode
  all_goals
    cases fin <;> cases compress <;> (apply UInt8.toNat_inj.mp; simp [Nat.add_assoc])

example : Trans.frameHeader_GetOpcode [0x89, 0x05] = 9 ∧ Trans.frameHeader_GetFIN [0x89, 0x05] = true
    ∧ Trans.frameHeader_GetMask [0x89, 0x85] = true ∧ Trans.frameHeader_GetLengthCode [0x89, 0x85] = 5 := by decide
example : (Trans.frameHeader_GenerateHeader (List.replicate 14 0) true true false 2 300 0).1.take 4 = [0x82, 126, 1, 44] := by decide

end TransEquiv
