import Gws.Props.TransWriter
/-!
# T3 — `doWrite` under the lock up to the transport write, and the gate of `Broadcaster.writeFrame`

`Trans.Conn_doWrite_head`: once the connection is closed nothing but a Close frame passes (`ErrConnClosed`), otherwise the
frame is the one `genFrame` builds as a final frame, compressed iff the extension is negotiated, UTF-8 checked iff configured.
The call of `genFrame` is a function parameter of the translation; it is instantiated with the translated `genFrame`, whose
call of `compressData` is interpreted by the model (`interpW`, as in `genFrame_eq`). The result equals the model's
`Writer.doWrite` (bytes handed to the transport, or the error), in the vocabulary of Go errors.
-/
set_option linter.unusedSimpArgs false   -- deliberate: arguments idle under today's translation serve when the Go code is re-spelled

namespace TransEquiv

def goErrOfW : Writer.WErr → GoErr
  | .textEncoding => .named "ErrTextEncoding"
  | .messageTooLarge => .named "ErrMessageTooLarge"
  | .connClosed => .named "ErrConnClosed"
  | .reader => .io
  | .panic s => .named ("panic: " ++ s)

def genFrameM (cfg : Writer.Cfg) (codec : Codec) (cps : Win) (payload : List Bytes) (maskNum : UInt32)
    (opcode : UInt8) (p : Bytes) (fin compress broadcast checkEncoding : Bool) : Bytes × Option GoErr :=
  match interpW cfg codec cps payload (goBytesU32LE maskNum)
      (Trans.Conn_genFrame GenOut.ret GenOut.compress opcode p (cfg_checkEncoding := checkEncoding)
        (c_config_WriteMaxPayloadSize := (cfg.writeMax : Int)) (cfg_compress := compress) (c_pd_Threshold := (cfg.threshold : Int))
        (cfg_fin := fin) (cfg_broadcast := broadcast) (c_isServer := cfg.isServer) (maskNum := maskNum)) with
  | .ok b => (b, none)
  | .error e => ([], some (goErrOfW e))

/-- `doWrite` up to the transport write = `Writer.doWrite`: what is handed to the transport, or the error returned -/
theorem doWrite_head_eq (cfg : Writer.Cfg) (codec : Codec) (st : Writer.Conn) (opcode : UInt8) (payload : List Bytes)
    (maskNum : UInt32) (hlen : payload.flatten.length < 2 ^ 62) :
    Trans.Conn_doWrite_head (c_config_CheckUtf8Enabled := cfg.checkUtf8) (c_pd_Enabled := cfg.pdEnabled)
        (c_genFrame := genFrameM cfg codec st.cps payload maskNum) (closed := st.closed) (opcode := opcode) (payload := payload.flatten)
      = (match (Writer.doWrite cfg codec st opcode.toNat payload (goBytesU32LE maskNum)).err with
         | some e => .error (some (goErrOfW e))
         | none => .ok (Writer.doWrite cfg codec st opcode.toNat payload (goBytesU32LE maskNum)).wire) := by
  have h := genFrame_eq cfg codec st.cps opcode payload (Writer.msgCfg cfg) maskNum hlen
  simp only [Writer.msgCfg] at h
  have hop : (opcode != (8 : UInt8)) = !decide (opcode.toNat = Facts.opClose) := by
    show (!(opcode == (8 : UInt8))) = _
    rw [u8_beq]; rfl
  unfold Trans.Conn_doWrite_head genFrameM Writer.doWrite
  simp only [Writer.msgCfg]
  rw [h, hop]
  by_cases ho : opcode.toNat = Facts.opClose <;> cases hc : st.closed <;>
    cases hg : Writer.genFrame cfg codec st.cps opcode.toNat payload
      { fin := true, compress := cfg.pdEnabled, broadcast := false, checkEncoding := cfg.checkUtf8 } (goBytesU32LE maskNum) <;>
    simp [ho, hc, hg, goErrOfW]

/-- `Broadcaster.writeFrame`: the shared frame is written iff the connection is not closed (tested under the lock: fact
`bcClosedCheckUnderLock`) — the gate of `Writer.writeBroadcast` -/
theorem broadcast_gate_eq (st : Writer.Conn) (frame payload : Bytes) (compressed : Bool) :
    Trans.Broadcaster_writeFrame_gate (closed := st.closed)
      = (match (Writer.writeBroadcast st frame compressed payload).err with
         | some e => .error (some (goErrOfW e))
         | none => .ok ()) := by
  unfold Trans.Broadcaster_writeFrame_gate Writer.writeBroadcast
  cases st.closed <;> simp [goErrOfW]

private def exCfg : Writer.Cfg :=
  { isServer := true, pdEnabled := false, threshold := 512, bits := 12, writeMax := 1024, checkUtf8 := true }

/-- the identity "codec" (not consulted: compression is not negotiated) -/
private def exCodec : Codec := { inflate := fun _ d => some d, compress := fun _ _ c => c.flatten }

/-- a closed connection refuses a Text message -/
example : Trans.Conn_doWrite_head (c_config_CheckUtf8Enabled := true) (c_pd_Enabled := false)
    (c_genFrame := genFrameM exCfg exCodec Win.disabled [[104, 105]] 0) (closed := true) (opcode := 1) (payload := [104, 105])
      = .error (some (.named "ErrConnClosed")) := by rfl

/-- a closed connection still sends the Close frame (FIN + opcode 8, length 2, status 1000) -/
example : Trans.Conn_doWrite_head (c_config_CheckUtf8Enabled := true) (c_pd_Enabled := false)
    (c_genFrame := genFrameM exCfg exCodec Win.disabled [[3, 232]] 0) (closed := true) (opcode := 8) (payload := [3, 232])
      = .ok [136, 2, 3, 232] := by decide +kernel

/-- an open connection: a Text message as one final frame -/
example : Trans.Conn_doWrite_head (c_config_CheckUtf8Enabled := true) (c_pd_Enabled := false)
    (c_genFrame := genFrameM exCfg exCodec Win.disabled [[104, 105]] 0) (closed := false) (opcode := 1) (payload := [104, 105])
      = .ok [129, 2, 104, 105] := by decide +kernel

/-- invalid UTF-8 in a Text message with the check configured: `ErrTextEncoding` -/
example : Trans.Conn_doWrite_head (c_config_CheckUtf8Enabled := true) (c_pd_Enabled := false)
    (c_genFrame := genFrameM exCfg exCodec Win.disabled [[255]] 0) (closed := false) (opcode := 1) (payload := [255])
      = .error (some (.named "ErrTextEncoding")) := by decide +kernel

example : Trans.Broadcaster_writeFrame_gate (closed := true) = .error (some (.named "ErrConnClosed")) := by rfl
example : Trans.Broadcaster_writeFrame_gate (closed := false) = .ok () := by rfl

end TransEquiv
