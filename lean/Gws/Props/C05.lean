import Gws.Lemmas.WriterCall
import Gws.Spec.Inflate
import Gws.Lemmas.Utf8
/-!
# C05 — outbound bytes are a sequence of well-formed RFC 6455 frames

Statement (properties.jsonl): everything gws writes after the handshake parses with an independent
RFC 6455 decoder as complete frames: shortest-form payload length, a mask bit and 4-byte key iff the
sender is a client, RSV2/RSV3 clear, RSV1 only on the first frame of a compressed data message,
control frames unfragmented, and a streamed message as one initial data frame followed by
continuation frames ending with FIN.  The unmasked (and, if compressed, inflated) payload of each
message's frames equals what the application asked to send, for every call within the documented
limits.

The decoder is `Spec.decodeFrames` (Spec/Frames.lean, built on `Spec.decodeHdr`); the sender rules
are `Spec.wellFormedSent`, `Spec.controlFrameOk`, `Spec.messageShape`.  The model is
`Gws/Model/Writer.lean`; every write API builds its frames with `genFrame` (WriteMessage, Writev,
WriteString, WriteAsync, WritevAsync, WritePing, WritePong, WriteClose, Broadcaster, and each frame of
WriteFile), so the theorems about one frame speak of all of them.  The DEFLATE library is the `Codec`
parameter: wherever a statement needs a property of its output it is an explicit hypothesis (`hL1`:
the output of a sync flush ends with `00 00 ff ff`; `hL2`: the Lean RFC 1951 inflater restores the
input from it).  Mask keys are universally quantified inputs.  `writeMax < 2^63`:
`WriteMaxPayloadSize` is a Go `int`.
-/

namespace Writer
open Spec

/-- **`GenerateHeader` read back.**  For every role, flag combination, opcode below 16, payload
length below 2^63 and 4-byte key, the RFC decoder reads from the generated bytes (followed by
anything) a header with exactly the requested fields, the mask bit and key iff the sender is a
client, RSV2/RSV3 clear, and the length in its SHORTEST form. -/
theorem genHeader_decodes (isServer fin compress : Bool) (opcode n : Nat) (key rest : Bytes)
    (hop : opcode < 16) (hn : n < 2 ^ 63) (hk : key.length = 4) :
    ∃ h, Spec.decodeHdr (Frame.genHeader isServer fin compress opcode n key ++ rest) = some (h, rest) ∧
      h.fin = fin ∧ h.rsv1 = compress ∧ h.rsv2 = false ∧ h.rsv3 = false ∧ h.opcode = opcode ∧
      h.masked = !isServer ∧ h.len = n ∧ h.key = (if isServer then [] else key) ∧
      (n ≤ 125 ↔ h.lenForm = 7) ∧ (126 ≤ n ∧ n ≤ 65535 ↔ h.lenForm = 16) ∧ (65536 ≤ n ↔ h.lenForm = 64) := by
  have hs := (sentHdr_wf isServer fin compress opcode n key hn hk).1
  have e : (sentHdr isServer fin compress opcode n key).len = n := rfl
  unfold Spec.shortestForm at hs
  refine ⟨_, genHeader_decodes_eq isServer fin compress opcode n key rest hop (by omega) hk,
    rfl, rfl, rfl, rfl, rfl, rfl, rfl, rfl, ?_, ?_, ?_⟩ <;> omega

/-- **Uncompressed frames.**  Whenever `genFrame` succeeds on its uncompressed branch, the bytes
are exactly one complete frame for the RFC decoder: well-formed for the sender's role (shortest
length form, masked with a 4-byte key iff client, RSV2/RSV3 clear, length below 2^63), FIN as
requested, RSV1 clear, the requested opcode, and the UNMASKED payload is the concatenation of the
slices the application passed. -/
theorem genFrame_decodes (cfg : Cfg) (codec : Codec) (cps : Win) (opcode : Nat) (payload : List Bytes) (fc : FrameCfg)
    (key wire : Bytes) (hop : opcode < 16) (hk : key.length = 4) (hmax : cfg.writeMax < 2 ^ 63)
    (hc : willCompress cfg fc opcode payload.flatten.length = false)
    (h : genFrame cfg codec cps opcode payload fc key = .ok wire) :
    ∃ hdr, Spec.decodeFrames wire = some [(hdr, payload.flatten)] ∧
      Spec.wellFormedSent (!cfg.isServer) hdr ∧ hdr.fin = fc.fin ∧ hdr.rsv1 = false ∧ hdr.opcode = opcode ∧
      hdr.len = payload.flatten.length := by
  obtain ⟨hle, rfl⟩ := genFrame_ok hk (.inl hc) h
  rw [hc, sentBody_plain hc]
  obtain ⟨hd, hwf⟩ := wireFrame_single cfg.isServer fc.fin false opcode payload.flatten key hop (by omega) hk
  exact ⟨_, hd, hwf, rfl, rfl, rfl, rfl⟩

/-- the same fact at byte level: the frame is the header followed by the body, and the body is the
payload (server) or unmasks to it under RFC 6455 §5.3 (client) — C18 applied to the write path -/
theorem genFrame_wire (cfg : Cfg) (codec : Codec) (cps : Win) (opcode : Nat) (payload : List Bytes) (fc : FrameCfg)
    (key wire : Bytes) (hk : key.length = 4)
    (hc : willCompress cfg fc opcode payload.flatten.length = false)
    (h : genFrame cfg codec cps opcode payload fc key = .ok wire) :
    ∃ body, wire = Frame.genHeader cfg.isServer fc.fin false opcode payload.flatten.length key ++ body ∧
      body.length = payload.flatten.length ∧
      (if cfg.isServer then body = payload.flatten else Spec.unmask key body = payload.flatten) := by
  obtain ⟨-, rfl⟩ := genFrame_ok hk (.inl hc) h
  rw [hc, sentBody_plain hc]
  refine ⟨_, rfl, ?_⟩
  cases cfg.isServer
  · simpa using spec_unmask_masked key payload.flatten hk
  · simp

/-- **Compressed frames.**  When `genFrame` takes its compression branch and the library's output
`out` has at least four bytes, the result is one complete well-formed frame with RSV1 set whose
unmasked payload is `out` with the trailing `00 00 ff ff` (if present) removed. -/
theorem genFrame_decodes_compressed (cfg : Cfg) (codec : Codec) (cps : Win) (opcode : Nat) (payload : List Bytes)
    (fc : FrameCfg) (key wire out : Bytes) (hop : opcode < 16) (hk : key.length = 4)
    (hout : out = codec.compress cfg.bits (if fc.broadcast then [] else cps.dict) payload)
    (hc : willCompress cfg fc opcode payload.flatten.length = true)
    (h4 : 4 ≤ out.length) (hlt : out.length < 2 ^ 63)
    (h : genFrame cfg codec cps opcode payload fc key = .ok wire) :
    ∃ hdr, Spec.decodeFrames wire = some [(hdr, stripTail out)] ∧
      Spec.wellFormedSent (!cfg.isServer) hdr ∧ hdr.fin = fc.fin ∧ hdr.rsv1 = true ∧ hdr.opcode = opcode := by
  subst hout
  obtain ⟨-, rfl⟩ := genFrame_ok hk (.inr ⟨h4, by omega⟩) h
  rw [hc, sentBody_compressed hc]
  have hl := stripTail_length_le (codec.compress cfg.bits (if fc.broadcast then [] else cps.dict) payload)
  obtain ⟨hd, hwf⟩ := wireFrame_single cfg.isServer fc.fin true opcode
    (stripTail (codec.compress cfg.bits (if fc.broadcast then [] else cps.dict) payload)) key hop (by omega) hk
  exact ⟨_, hd, hwf, rfl, rfl, rfl⟩

/-- the strip removes exactly one `00 00 ff ff`, and only from the very end: re-appending it (what
an RFC 7692 §7.2.2 receiver does) restores the library's output -/
theorem stripTail_restore (body : Bytes) : stripTail (body ++ [0x00, 0x00, 0xff, 0xff]) ++ [0x00, 0x00, 0xff, 0xff] = body ++ [0x00, 0x00, 0xff, 0xff] := by
  rw [stripTail_tail]

/-- if the strip changed the buffer at all, it removed `00 00 ff ff` from its end -/
theorem stripTail_changed (b : Bytes) (h : stripTail b ≠ b) : stripTail b ++ [0x00, 0x00, 0xff, 0xff] = b := by
  rcases stripTail_cases b with h1 | h1
  · exact absurd h1 h
  · exact h1.symm

/-- **Compressed frames carry the application payload.**  Under the two Codec laws — (L1) a
sync-flushed stream ends with `00 00 ff ff`, (L2) the RFC 1951 inflater, started with the history
`hist`, restores the input from the library's output — the payload `p` of the frame satisfies: the
inflater applied to `p ++ 00 00 ff ff` (RFC 7692 §7.2.2) yields the concatenation of the slices
the application passed. -/
theorem genFrame_inflates (cfg : Cfg) (codec : Codec) (cps : Win) (opcode : Nat) (payload : List Bytes)
    (fc : FrameCfg) (key wire out hist : Bytes) (d : Nat) (hop : opcode < 16) (hk : key.length = 4)
    (hout : out = codec.compress cfg.bits (if fc.broadcast then [] else cps.dict) payload)
    (hc : willCompress cfg fc opcode payload.flatten.length = true)
    (hlt : out.length < 2 ^ 63)
    (hL1 : ∃ body, out = body ++ [0x00, 0x00, 0xff, 0xff])
    (hL2 : Spec.Inflate.runList hist out = some (payload.flatten, d))
    (h : genFrame cfg codec cps opcode payload fc key = .ok wire) :
    ∃ hdr p, Spec.decodeFrames wire = some [(hdr, p)] ∧ Spec.wellFormedSent (!cfg.isServer) hdr ∧
      hdr.fin = fc.fin ∧ hdr.rsv1 = true ∧ hdr.opcode = opcode ∧
      Spec.Inflate.runList hist (p ++ [0x00, 0x00, 0xff, 0xff]) = some (payload.flatten, d) := by
  obtain ⟨body, hb⟩ := hL1
  have h4 : 4 ≤ out.length := by rw [hb]; simp
  obtain ⟨hdr, h1, h2, h3, h4', h5⟩ :=
    genFrame_decodes_compressed cfg codec cps opcode payload fc key wire out hop hk hout hc h4 hlt h
  refine ⟨hdr, stripTail out, h1, h2, h3, h4', h5, ?_⟩
  rw [hb, stripTail_restore, ← hb]
  exact hL2

/-- **Control frames.**  A Ping, Pong or Close (any opcode 8…15) with at most 125 bytes of payload
sent through `doWrite`'s frame configuration is a single frame with FIN set, the 7-bit length form,
RSV1 clear (never compressed, whatever the compression settings), carrying the payload. -/
theorem controlFrame_decodes (cfg : Cfg) (codec : Codec) (cps : Win) (opcode : Nat) (payload : List Bytes) (key : Bytes)
    (hop8 : 8 ≤ opcode) (hop : opcode < 16) (hk : key.length = 4) (hmax : cfg.writeMax < 2 ^ 63)
    (h125 : payload.flatten.length ≤ 125) (hle : payload.flatten.length ≤ cfg.writeMax) :
    ∃ wire hdr, genFrame cfg codec cps opcode payload (msgCfg cfg) key = .ok wire ∧
      Spec.decodeFrames wire = some [(hdr, payload.flatten)] ∧
      Spec.controlFrameOk hdr ∧ hdr.opcode = opcode ∧ Spec.wellFormedSent (!cfg.isServer) hdr := by
  have hc := willCompress_control cfg (msgCfg cfg) opcode payload.flatten.length hop8
  have hg := genFrame_pass (codec := codec) (cps := cps) (fc := msgCfg cfg) hk
    (fun h => by have := h.1; simp [Facts.opText] at this; omega) hle (.inl hc)
  rw [hc, sentBody_plain hc] at hg
  obtain ⟨hd, hwf⟩ := wireFrame_single cfg.isServer (msgCfg cfg).fin false opcode payload.flatten key hop
    (Nat.lt_of_le_of_lt hle hmax) hk
  exact ⟨_, _, hg, hd, ⟨rfl, if_pos h125, h125, rfl⟩, rfl, hwf⟩

/-- **Rejections.**  `genFrame` returns `ErrTextEncoding` iff the opcode is Text, checking is on and
the concatenated payload is not valid UTF-8; `ErrMessageTooLarge` iff that gate passed and the
payload is longer than `WriteMaxPayloadSize`; it returns no other error.  A rejection is an
`Except.error`: there are no bytes. -/
theorem genFrame_rejects (cfg : Cfg) (codec : Codec) (cps : Win) (opcode : Nat) (payload : List Bytes) (fc : FrameCfg)
    (key : Bytes) :
    let bad := opcode = 1 ∧ fc.checkEncoding = true ∧ Spec.Utf8.valid payload.flatten = false
    (genFrame cfg codec cps opcode payload fc key = .error .textEncoding ↔ bad) ∧
    (genFrame cfg codec cps opcode payload fc key = .error .messageTooLarge ↔ ¬ bad ∧ payload.flatten.length > cfg.writeMax) ∧
    (∀ e, genFrame cfg codec cps opcode payload fc key = .error e → e = .textEncoding ∨ e = .messageTooLarge) := by
  intro bad
  have hbad : (opcode = Facts.opText ∧ Utf8.buffersCheck fc.checkEncoding opcode payload = false) ↔ bad := by
    simp only [bad, Facts.opText, Utf8.buffersCheck, Utf8.validJoined_eq]
    constructor
    · rintro ⟨rfl, h⟩
      cases hce : fc.checkEncoding <;> simp_all
    · rintro ⟨rfl, h1, h2⟩
      simp [h1, h2]
  obtain ⟨wire, hw⟩ := genFrame_gates cfg codec cps opcode payload fc key
  rw [hw]
  simp only [hbad]
  by_cases hb : bad
  · rw [if_pos hb]; simp [hb]
  · rw [if_neg hb]
    by_cases hm : payload.flatten.length > cfg.writeMax
    · rw [if_pos hm]; exact ⟨by simp [hb], ⟨fun _ => ⟨hb, hm⟩, fun _ => rfl⟩, by simp⟩
    · rw [if_neg hm]; exact ⟨by simp [hb], ⟨nofun, fun h => absurd h.2 hm⟩, by simp⟩

/-- a call rejected by `doWrite` (either gate, or a closed connection) writes nothing and leaves the
compression window untouched -/
theorem doWrite_rejected (cfg : Cfg) (codec : Codec) (st : Conn) (opcode : Nat) (payload : List Bytes) (key : Bytes)
    (e : WErr) (h : (doWrite cfg codec st opcode payload key).err = some e) :
    (doWrite cfg codec st opcode payload key).wire = [] ∧ (doWrite cfg codec st opcode payload key).st = st := by
  unfold doWrite at h ⊢
  by_cases hc : opcode ≠ Facts.opClose ∧ st.closed = true
  · rw [if_pos hc]; exact ⟨rfl, rfl⟩
  · rw [if_neg hc] at h ⊢
    cases hf : genFrame cfg codec st.cps opcode payload (msgCfg cfg) key with
    | error e' => exact ⟨rfl, rfl⟩
    | ok frame => rw [hf] at h; simp at h

/-- the window after an accepted `doWrite`: the payload enters the history iff the frame that went
out was a compressed data frame (the rule the model implements, see Model/Writer.lean) -/
theorem doWrite_window (cfg : Cfg) (codec : Codec) (st : Conn) (opcode : Nat) (payload : List Bytes) (key : Bytes)
    (h : (doWrite cfg codec st opcode payload key).err = none) :
    (doWrite cfg codec st opcode payload key).st.cps =
      (if willCompress cfg (msgCfg cfg) opcode payload.flatten.length then payload.foldl Win.write st.cps else st.cps) := by
  unfold doWrite at h ⊢
  by_cases hc : opcode ≠ Facts.opClose ∧ st.closed = true
  · rw [if_pos hc] at h; simp at h
  · rw [if_neg hc] at h ⊢
    cases hf : genFrame cfg codec st.cps opcode payload (msgCfg cfg) key with
    | error e' => rw [hf] at h; simp at h
    | ok frame => rfl

/-- **WriteFile without compression**, for every reader script (any chunking, zero-length reads,
EOF reported with the last data or separately): the call succeeds and what it wrote decodes as ONE
message — `opcode, 0, 0, …`, FIN exactly on the last frame, RSV1 nowhere — of well-formed frames,
one per `Read`, whose unmasked payloads are the reader's chunks in order; at least one frame is
written; the window is untouched. -/
theorem writeFile_frames_plain (cfg : Cfg) (codec : Codec) (st : Conn) (opcode : Nat) (reads : ReaderScript)
    (outs : List Bytes) (keys : Nat → Bytes)
    (hop : opcode < 16) (hkeys : ∀ i, (keys i).length = 4) (hopen : st.closed = false) (hmax : cfg.writeMax < 2 ^ 63)
    (hpd : cfg.pdEnabled = false)
    (heof : (readChunks reads).2 = true)
    (hfit : ∀ c ∈ (readChunks reads).1, c.length ≤ cfg.writeMax) :
    let o := writeFile cfg codec st opcode reads outs keys
    o.err = none ∧ o.st = st ∧
    ∃ fs, Spec.decodeFrames o.wire = some fs ∧ fs ≠ [] ∧
      Spec.messageShape opcode false (fs.map (·.1)) ∧
      (∀ f ∈ fs, Spec.wellFormedSent (!cfg.isServer) f.1) ∧
      fs.map (·.2) = (readChunks reads).1 := by
  rw [writeFile_plain_eq cfg codec st opcode reads outs keys hop hkeys hopen hpd heof hfit]
  have := framesOf_message cfg opcode keys hop hkeys reads heof (fun c hc => Nat.lt_of_le_of_lt (hfit c hc) hmax)
  rw [hpd] at this
  exact ⟨rfl, rfl, this⟩

/-- **WriteFile with compression**, for every reader script AND every cutting `outs` of the
compressor's output into `Write` calls on the aggregator: the call succeeds and what it wrote decodes
as ONE message — `opcode, 0, 0, …`, FIN exactly on the last frame, RSV1 exactly on the first — of
well-formed frames whose concatenated unmasked payloads are the compressor output minus exactly one
trailing `00 00 ff ff` (if the output, of at least four bytes, ends with it): the hold-back never
lets part of the tail escape in an earlier frame.  At least one frame is written.  The window
afterwards is `Win.write` folded over the reader's chunks. -/
theorem writeFile_frames_compressed (cfg : Cfg) (codec : Codec) (st : Conn) (opcode : Nat) (reads : ReaderScript)
    (outs : List Bytes) (keys : Nat → Bytes)
    (hop : opcode < 16) (hkeys : ∀ i, (keys i).length = 4) (hopen : st.closed = false) (hmax : cfg.writeMax < 2 ^ 63)
    (hpd : cfg.pdEnabled = true)
    (heof : (readChunks reads).2 = true)
    (hne : outs ≠ []) (hfit : outs.flatten.length ≤ cfg.writeMax) :
    let o := writeFile cfg codec st opcode reads outs keys
    o.err = none ∧ o.st.closed = false ∧
    o.st.cps = (readChunks reads).1.foldl Win.write st.cps ∧
    ∃ fs, Spec.decodeFrames o.wire = some fs ∧ fs ≠ [] ∧
      Spec.messageShape opcode true (fs.map (·.1)) ∧
      (∀ f ∈ fs, Spec.wellFormedSent (!cfg.isServer) f.1) ∧
      (fs.map (·.2)).flatten = stripTail outs.flatten := by
  obtain ⟨hc1, hc2, hc3⟩ := planScript_chunks outs
  rw [writeFile_compressed_eq cfg codec st opcode reads outs keys hop hkeys hopen hpd heof hne hfit]
  obtain ⟨fs, h1, h2, h3, h4, h5⟩ := framesOf_message cfg opcode keys hop hkeys (planScript outs) hc1
    (fun c hc => Nat.lt_of_le_of_lt (Nat.le_trans (hc3 c hc) hfit) hmax)
  rw [hpd] at h3
  exact ⟨rfl, hopen, rfl, fs, h1, h2, h3, h4, by rw [h5]; exact hc2⟩

/-- **C05 for `WriteFile`**, both paths in one statement.  `outs` (the compressor's `Write` calls)
is arbitrary; it only matters when compression is negotiated. -/
theorem writeFile_frames (cfg : Cfg) (codec : Codec) (st : Conn) (opcode : Nat) (reads : ReaderScript)
    (outs : List Bytes) (keys : Nat → Bytes)
    (hop : opcode < 16) (hkeys : ∀ i, (keys i).length = 4) (hopen : st.closed = false) (hmax : cfg.writeMax < 2 ^ 63)
    (heof : (readChunks reads).2 = true)
    (hfit : if cfg.pdEnabled then outs ≠ [] ∧ outs.flatten.length ≤ cfg.writeMax
            else ∀ c ∈ (readChunks reads).1, c.length ≤ cfg.writeMax) :
    let o := writeFile cfg codec st opcode reads outs keys
    o.err = none ∧ o.st.closed = false ∧
    o.st.cps = (if cfg.pdEnabled then (readChunks reads).1.foldl Win.write st.cps else st.cps) ∧
    ∃ fs, Spec.decodeFrames o.wire = some fs ∧ 1 ≤ fs.length ∧
      Spec.messageShape opcode cfg.pdEnabled (fs.map (·.1)) ∧
      (∀ f ∈ fs, Spec.wellFormedSent (!cfg.isServer) f.1) ∧
      (fs.map (·.2)).flatten = (if cfg.pdEnabled then stripTail outs.flatten else (readChunks reads).1.flatten) := by
  intro o
  cases hpd : cfg.pdEnabled
  · simp only [hpd, Bool.false_eq_true, ↓reduceIte] at hfit ⊢
    obtain ⟨h1, h2, fs, h3, h4, h5, h6, h7⟩ :=
      writeFile_frames_plain cfg codec st opcode reads outs keys hop hkeys hopen hmax hpd heof hfit
    refine ⟨h1, by rw [h2]; exact hopen, by rw [h2], fs, h3, List.length_pos_iff.mpr h4, h5, h6, by rw [h7]⟩
  · simp only [hpd, ↓reduceIte] at hfit ⊢
    obtain ⟨h1, h2, h3, fs, h4, h5, h6, h7, h8⟩ :=
      writeFile_frames_compressed cfg codec st opcode reads outs keys hop hkeys hopen hmax hpd heof hfit.1 hfit.2
    exact ⟨h1, h2, h3, fs, h4, List.length_pos_iff.mpr h5, h6, h7, h8⟩

/-- **A streamed compressed message carries the reader's bytes.**  If `outs` is a cutting of what
the library emits for the chunks read (dictionary = the window at the start of the call) and the two
Codec laws hold, the RFC 1951 inflater applied to (concatenated frame payloads ++ `00 00 ff ff`)
yields the concatenation of the reader's chunks. -/
theorem writeFile_inflates (cfg : Cfg) (codec : Codec) (st : Conn) (opcode : Nat) (reads : ReaderScript)
    (outs : List Bytes) (keys : Nat → Bytes) (hist : Bytes) (d : Nat)
    (hop : opcode < 16) (hkeys : ∀ i, (keys i).length = 4) (hopen : st.closed = false) (hmax : cfg.writeMax < 2 ^ 63)
    (hpd : cfg.pdEnabled = true) (heof : (readChunks reads).2 = true)
    (hfit : outs.flatten.length ≤ cfg.writeMax)
    (hcut : outs.flatten = codec.compress cfg.bits st.cps.dict (readChunks reads).1)
    (hL1 : ∃ body, outs.flatten = body ++ [0x00, 0x00, 0xff, 0xff])
    (hL2 : Spec.Inflate.runList hist (codec.compress cfg.bits st.cps.dict (readChunks reads).1) =
      some ((readChunks reads).1.flatten, d)) :
    ∃ fs, Spec.decodeFrames (writeFile cfg codec st opcode reads outs keys).wire = some fs ∧
      Spec.Inflate.runList hist ((fs.map (·.2)).flatten ++ [0x00, 0x00, 0xff, 0xff]) = some ((readChunks reads).1.flatten, d) := by
  obtain ⟨body, hb⟩ := hL1
  have hne : outs ≠ [] := by
    intro h; rw [h] at hb; simp at hb
  obtain ⟨_, _, _, fs, h4, _, _, _, h8⟩ :=
    writeFile_frames_compressed cfg codec st opcode reads outs keys hop hkeys hopen hmax hpd heof hne hfit
  refine ⟨fs, h4, ?_⟩
  rw [h8, hb, stripTail_restore, ← hb, hcut]
  exact hL2

/-- an empty reader (EOF at once) still produces a frame: one empty FIN frame with the message's opcode -/
theorem writeFile_empty_reader (cfg : Cfg) (codec : Codec) (st : Conn) (opcode : Nat) (outs : List Bytes) (keys : Nat → Bytes)
    (hop : opcode < 16) (hkeys : ∀ i, (keys i).length = 4) (hopen : st.closed = false)
    (hpd : cfg.pdEnabled = false) :
    ∃ hdr, Spec.decodeFrames (writeFile cfg codec st opcode [([], true)] outs keys).wire = some [(hdr, [])] ∧
      hdr.fin = true ∧ hdr.opcode = opcode ∧ hdr.len = 0 := by
  rw [writeFile_plain_eq cfg codec st opcode [([], true)] outs keys hop hkeys hopen hpd (by simp [readChunks])
    (by simp [readChunks])]
  obtain ⟨hd, -⟩ := wireFrame_single cfg.isServer true (cfg.pdEnabled && (0 : Nat) == 0)
    (if (0 : Nat) > 0 then Facts.opContinuation else opcode) [] (keys 0) (fileOp_lt hop 0) (by simp) (hkeys 0)
  exact ⟨_, by simpa [framesOf, fileWire] using hd, rfl, by simp [sentHdr], rfl⟩

-- header bytes: server Text FIN of 5 bytes; client Binary of 126 bytes with key 1 2 3 4; 65536 bytes
example : Frame.genHeader true true false 1 5 [] = [0x81, 0x05] := by decide
example : Frame.genHeader false true false 2 126 [1, 2, 3, 4] = [0x82, 0xfe, 0x00, 0x7e, 1, 2, 3, 4] := by decide
example : Frame.genHeader true false true 2 65536 [] = [0x42, 0x7f, 0, 0, 0, 0, 0, 1, 0, 0] := by decide

-- a server binary frame of two slices, byte for byte, through the padded buffer and the back-fill
example : genFrame (demoCfg true false) demoCodec Win.disabled 2 [[0x68], [0x69]] (msgCfg (demoCfg true false)) [] =
    .ok [0x82, 0x02, 0x68, 0x69] := by rfl

-- a compressed server frame: RSV1 set, tail stripped (8 bytes of library output, 4 on the wire)
example : genFrame (demoCfg true true) demoCodec Win.disabled 2 [[0x61, 0x61]] (msgCfg (demoCfg true true)) [] =
    .ok [0xc2, 0x04, 0x4a, 0xcc, 0x04, 0x00] := by rfl

-- why `genFrame_decodes_compressed` asks for `4 ≤ out.length`: the strip looks at the WHOLE buffer, padding
-- included, so a library output of fewer than four bytes ending in `ff ff` would make it cut into the
-- zero padding (the result is a truncated header).  A sync-flushed DEFLATE stream always ends with the
-- four bytes `00 00 ff ff`, so this is not reachable with a conforming library (hypothesis `hL1`).
example : genFrame (demoCfg true true) { demoCodec with compress := fun _ _ _ => [0xff, 0xff] } Win.disabled 2 [[1]]
    (msgCfg (demoCfg true true)) [] = .ok [0xc2, 0x7f, 0xff, 0xff, 0xff, 0xff, 0xff, 0xff] := by rfl

example : genFrame (demoCfg true false) demoCodec Win.disabled 1 [[0xff]] (msgCfg (demoCfg true false)) [] = .error .textEncoding :=
  (genFrame_rejects _ _ _ _ _ _ _).1.mpr ⟨rfl, rfl, by simp [Spec.Utf8.valid_cons]⟩
-- valid text passes the encoding gate: "é" split inside the code point
example : ∃ wire, genFrame (demoCfg true false) demoCodec Win.disabled 1 [[0xc3], [0xa9]] (msgCfg (demoCfg true false)) [0, 0, 0, 0] = .ok wire :=
  ⟨_, genFrame_pass rfl (by simp [Utf8.buffersCheck, Utf8.validJoined, Spec.Utf8.valid_cons, Spec.Utf8.valid_nil, Spec.Utf8.isCont, msgCfg, demoCfg])
    (by decide) (.inl (by decide))⟩
example : genFrame { demoCfg true false with writeMax := 1 } demoCodec Win.disabled 2 [[1, 2]] (msgCfg (demoCfg true false)) [] =
    .error .messageTooLarge := by rfl

-- the hypotheses of `genFrame_decodes` are satisfiable for a client (masked) frame
example : ∃ wire hdr, genFrame (demoCfg false false) demoCodec Win.disabled 2 [[1, 2, 3]] (msgCfg (demoCfg false false)) [9, 8, 7, 6] = .ok wire ∧
    Spec.decodeFrames wire = some [(hdr, [1, 2, 3])] ∧ hdr.masked = true := by
  have hg := genFrame_pass (cfg := demoCfg false false) (codec := demoCodec) (cps := Win.disabled) (opcode := 2)
    (payload := [[1, 2, 3]]) (fc := msgCfg (demoCfg false false)) (key := [9, 8, 7, 6]) rfl (by decide) (by decide) (.inl (by decide))
  obtain ⟨hdr, h1, h2, _⟩ := genFrame_decodes (demoCfg false false) demoCodec Win.disabled 2 [[1, 2, 3]]
    (msgCfg (demoCfg false false)) [9, 8, 7, 6] _ (by decide) rfl (by decide) (by decide) hg
  exact ⟨_, hdr, hg, h1, h2.2.1⟩

-- the aggregator: three bytes and then the 4-byte tail land in the first buffer; nothing is handed to
-- the callback before `Flush`, which strips the tail
example : (plan {} [[1, 2, 3], [0x00, 0x00, 0xff, 0xff]]).2 = [] := by decide

-- WriteFile on a server, plain: two reads and a separate EOF give Text, Continuation, Continuation(FIN, empty)
example : (writeFileFrames (demoCfg true false) demoCodec {} 1 [([0x61], false), ([0x62], false), ([], true)] [] (fun _ => [])).1 =
    [[0x01, 0x01, 0x61], [0x00, 0x01, 0x62], [0x80, 0x00]] := by decide

-- WriteFile on a server, compressed: the library's 8 bytes arrive in two Write calls; one frame, RSV1, tail stripped
example : (writeFileFrames (demoCfg true true) demoCodec {} 2 [([0x61, 0x61], true)]
    [[0x4a, 0xcc, 0x04], [0x00, 0x00, 0x00, 0xff, 0xff]] (fun _ => [])).1 = [[0xc2, 0x04, 0x4a, 0xcc, 0x04, 0x00]] := by decide

end Writer
