import Gws.Model.Limited
/-!
# C13 — the inflate output limiter, for every way the inflater chunks its output

The clause: a message whose inflated size exceeds the configured read maximum is never delivered
[…] without first buffering substantially more than the limit; every message whose inflated size is
within the limit, including exactly at it, is delivered.

`Codec.decompress` (used by the read-path theorems) compares the TOTAL inflated length with the
limit.  The code does not have the total: it copies in a streaming loop, modelled by `Limited.copy`.  This file is about
that loop, for every sequence of source reads (any chunking, bytes delivered together with EOF or not, an inflater error
at any point).  No statement here mentions `Codec.decompress`; that the loop's verdict is the verdict on the total is read
off `copy_spec`.
-/

namespace Limited

/-- `n` is the limited reader's counter `N`, `w` the length of the destination: the code keeps both and tests the limit on
`n` alone; `run` starts them both at 0, and `copy_spec` and `written_bounded` speak of equal ones -/
theorem copy_eof_within (M : Nat) (pre : List (Nat × Status)) (k : Nat) (hpre : ∀ x ∈ pre, x.2 = Status.more) (n w : Nat)
    (hle : n + ((pre ++ [(k, Status.eof)]).map (·.1)).sum ≤ M) :
    copy M (pre ++ [(k, Status.eof)]) n w = (w + ((pre ++ [(k, Status.eof)]).map (·.1)).sum, .ok) := by
  induction pre generalizing n w with
  | nil =>
    simp only [List.nil_append, List.map_cons, List.map_nil, List.sum_cons, List.sum_nil, Nat.add_zero] at hle ⊢
    simp only [copy, if_neg (Nat.not_lt.mpr hle)]
  | cons x ps ih =>
    obtain ⟨j, st⟩ := x
    obtain rfl : st = Status.more := hpre (j, st) (by simp)
    simp only [List.cons_append, List.map_cons, List.sum_cons] at hle ⊢
    simp only [copy, if_neg (show ¬ n + j > M by omega)]
    rw [ih (fun x hx => hpre x (by simp [hx])) (n + j) (w + j) (by omega), Nat.add_assoc]

/-- **C13, the streaming copy decides on the total** (how far above the limit a stopped copy gets: `written_bounded`). -/
theorem copy_spec (M : Nat) (reads : List (Nat × Status)) (n : Nat) (hn : n ≤ M) :
    -- accepted: what was written is within the limit
    ((copy M reads n n).2 = .ok → (copy M reads n n).1 ≤ M) ∧
    -- stopped for size: what was written is above the limit
    ((copy M reads n n).2 = .tooLarge → (copy M reads n n).1 > M) ∧
    -- a stream that ends (EOF) with total ≤ M succeeds with exactly that total
    (∀ total, (reads.map (·.1)).sum + n = total → total ≤ M →
      (∃ k pre, reads = pre ++ [(k, Status.eof)] ∧ ∀ x ∈ pre, x.2 = Status.more) →
      copy M reads n n = (total, .ok)) := by
  rw [← and_assoc]
  refine ⟨?_, fun total hsum hle ⟨k, pre, hr, hall⟩ => ?_⟩
  · induction reads generalizing n with
    | nil => simp [copy]
    | cons x rest ih =>
      obtain ⟨k, st⟩ := x
      simp only [copy]
      by_cases hk : n + k > M
      · rw [if_pos hk]
        exact ⟨by simp, fun _ => hk⟩
      · rw [if_neg hk]
        cases st with
        | more => exact ih (n + k) (by omega)
        | eof => exact ⟨fun _ => Nat.not_lt.mp hk, by simp⟩
        | fail => exact ⟨by simp, by simp⟩
  · subst hr
    rw [copy_eof_within M pre k hall n n (by omega), ← hsum, Nat.add_comm]

/-- **Inflated size above the limit is never accepted.** Whatever the chunking, if the copy succeeds
the number of bytes produced is at most the limit. -/
theorem accepted_within_limit (M : Nat) (reads : List (Nat × Status)) (w : Nat) (h : run M reads = (w, .ok)) : w ≤ M := by
  have := (copy_spec M reads 0 (Nat.zero_le _)).1
  simp only [run] at h
  rw [h] at this
  exact this rfl

/-- **Exactly at the limit is accepted.** A stream that ends with EOF (alone or together with its
last bytes) and whose total inflated size is ≤ the limit is copied completely. -/
theorem within_limit_accepted (M : Nat) (pre : List (Nat × Status)) (k : Nat) (hpre : ∀ x ∈ pre, x.2 = Status.more)
    (hle : ((pre ++ [(k, Status.eof)]).map (·.1)).sum ≤ M) :
    run M (pre ++ [(k, Status.eof)]) = (((pre ++ [(k, Status.eof)]).map (·.1)).sum, .ok) :=
  (copy_spec M _ 0 (Nat.zero_le _)).2.2 _ (by simp) hle ⟨k, pre, rfl, hpre⟩

/-- **No substantial over-buffering.** When the copy stops for size, it has written the chunks that
were within the limit plus the one chunk that crossed it: at most `M + c` bytes if no source read
returns more than `c` bytes (in the code a read is as large as the spare capacity of the destination
`bytes.Buffer`: at least 512 bytes and at most about what it already holds, so the destination never
holds more than roughly twice the limit). -/
theorem written_bounded (M c : Nat) (reads : List (Nat × Status)) (hc : ∀ x ∈ reads, x.1 ≤ c) (n : Nat) (hn : n ≤ M) :
    (copy M reads n n).1 ≤ M + c := by
  induction reads generalizing n with
  | nil => simp [copy]; omega
  | cons x rest ih =>
    obtain ⟨k, st⟩ := x
    have hk := hc (k, st) (by simp)
    simp only at hk
    simp only [copy]
    by_cases h : n + k > M
    · simp only [h, ↓reduceIte]; omega
    · simp only [h, ↓reduceIte]
      cases st with
      | more => exact ih (fun x hx => hc x (by simp [hx])) (n + k) (by omega)
      | eof => simp; omega
      | fail => simp; omega

/-- **Bytes that come together with EOF are counted too** (the final chunk of a BFINAL stream): a
last chunk that crosses the limit is refused even though the source reported EOF with it. -/
theorem final_chunk_counted (M n k : Nat) (h : n + k > M) (w : Nat) :
    (copy M [(k, Status.eof)] n w).2 = .tooLarge := by
  simp [copy, h]

example : run 10 [(4, .more), (6, .eof)] = (10, .ok) := by decide
example : run 10 [(4, .more), (7, .eof)] = (11, .tooLarge) := by decide
example : run 10 [(4, .more), (3, .fail)] = (7, .fail) := by decide

end Limited
