import Gws.Generated.TransDeque
import Gws.Lemmas.TransDeque
/-!
# T3 for internal/deque.go (C20), part 1: the building blocks

`Gws/Generated/TransDeque.lean` is regenerated from /repo/internal/deque.go on every run by the deque dialect of
tools/gotrans (a `*Element[T]` = the index of its slot, every indirection nil-checked, `none` = panic). The theorems here
and in `TransDequeOps.lean` prove each translated function equal to the function of the hand-written model
(`Gws/Model/Deque.lean`) that the C20 theorems (`Gws/Props/C20.lean`: refinement to a list, no panic on a well-formed deque)
are proved about. Internal helpers that receive an element pointer from their caller are equal under `ele ≠ 0` (the Go code
would panic on nil; every caller passes a pointer it has just checked or obtained from `getElement`).

The proofs are to go through however deque.go spells a function (DESIGN.md 2.3, harmless rewrites): `simp` arguments that
today's translation leaves unused, `deref_ne`/`assign_ne` named although they are `simp` lemmas, are deliberate; hence the
linter option.
-/
set_option linter.unusedSimpArgs false

namespace TransEquiv.Dq
open GoDeque TransDeque

@[simp] theorem IsNil_eq (c : Nat) : (Pointer_IsNil c = true) = (c = 0) := by simp [Pointer_IsNil]

@[simp] theorem Get_eq (d : Deque) (a : Nat) : Deque_Get d a = d.get a := by
  unfold Deque_Get Deque.get elemAddr
  by_cases h : a > 0 <;> simp [h]

theorem getElement_eq (d : Deque) : Deque_getElement d = d.getElement := by
  unfold Deque_getElement Deque.getElement
  simp only [Get_eq, IsNil_eq]
  cases hs : d.stack with
  | nil =>
    by_cases h0 : d.elements.length = 0 <;>
      simp [h0, hs, lifoLen, lifoPop, pointerOfInt, get_bind, deref_ne, assign_ne, Deque.setAddr]
  | cons a r =>
    by_cases h0 : d.elements.length = 0 <;> by_cases ha : a = 0 <;>
      simp [h0, hs, ha, lifoLen, lifoPop, pointerOfInt, get_bind, deref_ne, assign_ne, Deque.setAddr]

theorem getElement_post {d d' : Deque} {v : Nat} (h : d.getElement = some (d', v)) : v ≠ 0 ∧ v < d'.elements.length := by
  unfold Deque.getElement at h
  cases hs : d.stack with
  | nil =>
    by_cases h0 : d.elements.length = 0 <;> simp [h0, hs, get_bind] at h <;> obtain ⟨rfl, rfl⟩ := h <;> simp [h0]
  | cons a r =>
    by_cases h0 : d.elements.length = 0 <;> simp [h0, hs, get_bind] at h
    · exact absurd h.1 h.2.1
    · obtain ⟨hl, ha, rfl, rfl⟩ := h
      exact ⟨ha, by simpa [ha] using hl⟩

theorem putElement_eq (d : Deque) (ele : Nat) (h : ele ≠ 0) : Deque_putElement d ele = some (d.putElement ele) := by
  simp [Deque_putElement, Deque.putElement, h, lifoPush, assign, Deque.store, Deque.load]

theorem autoReset_eq (d : Deque) : Deque_autoReset d = some d.autoReset := by
  unfold Deque_autoReset Deque.autoReset
  by_cases h : d.elements.length > 0
  · have : 1 ≤ d.elements.length := h
    simp [h, sliceTo, lifoClear, this]
  · simp [h, lifoClear]

theorem Reset_eq (d : Deque) : Deque_Reset d = some d.reset := by
  simp [Deque_Reset, autoReset_eq, Deque.reset]

theorem Len_eq (d : Deque) : Deque_Len d = some d.len := by
  rfl

theorem Front_eq (d : Deque) : Deque_Front d = d.front := by
  simp [Deque_Front, Deque.front]

theorem Back_eq (d : Deque) : Deque_Back d = d.back := by
  simp [Deque_Back, Deque.back]

theorem doPushFront_eq (d : Deque) (ele : Nat) (h : ele ≠ 0) : Deque_doPushFront d ele = d.doPushFront ele := by
  unfold Deque_doPushFront Deque.doPushFront
  -- `-Deque.load_mk`, here and in the other ties where `simp` has to see a read behind a write: it unfolds `load` on a `{ d with … }` term but not on `d` itself,
  -- so reads after writes (`load_store_self`, `load_store_ne`) would go unrecognised
  by_cases hh : d.head = 0 <;> simp [hh, h, get_bind, deref_ne, assign_ne, -Deque.load_mk]

theorem doPushBack_eq (d : Deque) (ele : Nat) (h : ele ≠ 0) : Deque_doPushBack d ele = d.doPushBack ele := by
  unfold Deque_doPushBack Deque.doPushBack
  by_cases hh : d.tail = 0 <;> simp [hh, h, get_bind, deref_ne, assign_ne, -Deque.load_mk]

theorem doRemove_eq (d : Deque) (ele : Nat) (h : ele ≠ 0) : Deque_doRemove d ele = d.doRemove ele := by
  unfold Deque_doRemove Deque.doRemove
  -- the reads of `ele` first, so that the two tests stand at the head of the term and each case simplifies only its own
  -- copy of what follows them (`simp` normalises the body of a pending `bind` before it looks at the test inside)
  simp only [Get_eq, IsNil_eq, deref_ne h, Option.bind_eq_bind, Option.bind_some]
  by_cases hp : (d.load ele).prev = 0 <;> by_cases hn : (d.load ele).next = 0 <;>
    simp [hp, hn, ↓get_bind, ite_some_bind, ↓deref_bind, ↓assign_bind, -Deque.load_mk]

/-- the four getters of `*Element[T]`: the field of the slot, a panic on nil -/
theorem Element_getters (d : Deque) (p : Nat) :
    Element_Addr d p = (if p = 0 then none else some (d.load p).addr) ∧
    Element_Next d p = (if p = 0 then none else some (d.load p).next) ∧
    Element_Prev d p = (if p = 0 then none else some (d.load p).prev) ∧
    Element_Value d p = (if p = 0 then none else some (d.load p).value) := by
  unfold Element_Addr Element_Next Element_Prev Element_Value deref
  by_cases h : p = 0 <;> simp [h]

/-! ## `Stack[T]` (a slice, top = last element) is the LIFO the deque functions use it as (top = head of the reversed list)

Nothing composes these three with the ties above: inside deque.go the dialect reads `c.stack.Len/Push/Pop` directly as
`GoDeque.lifoLen/lifoPush/lifoPop`; that reading is the prelude's, and trusted. -/

theorem Stack_Len_eq (s : List Nat) : Stack_Len s = some (lifoLen s.reverse) := by
  simp [Stack_Len, lifoLen]

theorem Stack_Push_eq (s : List Nat) (v : Nat) : (Stack_Push s v).map List.reverse = some (lifoPush s.reverse v) := by
  simp [Stack_Push, lifoPush]

theorem Stack_Pop_eq (s : List Nat) : (Stack_Pop s).map (fun r => (r.1.reverse, r.2)) = lifoPop s.reverse := by
  -- the model's side first: the stack as the reversed list, empty or not; then the translated side is only evaluated
  -- (whatever names the Go code gives to `len(*c)` or `len(*c) - 1`)
  obtain ⟨l, rfl⟩ : ∃ l, s = l.reverse := ⟨s.reverse, by simp⟩
  cases l with
  | nil => simp [Stack_Pop, Stack_Len, index, sliceTo, lifoPop]
  | cons a l =>
    have h1 : ¬ ((l.length : Int) < 0) := by omega
    have h2 : (1 : Int) ≤ (l.length : Int) + 1 := by omega
    have h3 : (l.length : Int) ≤ (l.length : Int) + 1 := by omega
    simp [Stack_Pop, Stack_Len, index, sliceTo, lifoPop, h1, h2, h3]

end TransEquiv.Dq
