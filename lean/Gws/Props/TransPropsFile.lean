import Gws.Props.TransReadLoop
import Gws.Props.C05
import Gws.Props.TransFW
/-!
# Two clauses of C05 stated of the translated Go code: a streamed message (`WriteFile`), without and with compression

`streamed_message_frames`.  No function of the model produces or reads the bytes: the translated `splitReader` drives the
translated callback of `doWriteFile`, which calls the translated `genFrame` (`genFrameT`); what they write is decoded by the
independent RFC 6455 frame decoder (`Spec.decodeFrames`).  Of the model only `Writer.Cfg` and `readChunks` — the chunks a
reader script yields — occur (and `stripTail` in the compressed clause), to say what the payloads have to be.  For every reader script that ends with EOF (any chunking, zero-length reads, EOF with the last
data or separately) whose chunks fit the write limit, on an open connection: the call returns no error, and the bytes written
decode as ONE message — `opcode, 0, 0, …`, FIN exactly on the last frame, RSV1 nowhere — of well-formed frames, one per `Read`,
whose unmasked payloads are the reader's chunks in order.
-/
namespace TransProps
open TransFW Writer TransEquiv TransEquiv.RL

theorem streamed_message_frames (cfg : Cfg) (codec : Codec) (opcode : UInt8) (script : ReaderScript) (maskNums : Nat → UInt32)
    (hop : opcode.toNat < 16) (hmax : cfg.writeMax < 2 ^ 63) (hpd : cfg.pdEnabled = false)
    (heof : (readChunks script).2 = true)
    (hfit : ∀ c ∈ (readChunks script).1, c.length ≤ cfg.writeMax)
    (hlen : ∀ rd ∈ script, rd.1.length < 2 ^ 62) :
    ∃ frames : List Bytes,
      Conn_splitReader
          (fun (st : List Bytes) (index : Int) (eof : Bool) (p : Bytes) =>
            match Trans.Conn_doWriteFile_frame (c_pd_Enabled := cfg.pdEnabled) (c_genFrame := genFrameT cfg (maskNums index.toNat))
                (closed := false) (eof := eof) (index := index) (opcode := opcode) (p := p) with
            | .ok frame => (st ++ [frame], none)
            | .error e => (st, e))
          [] script = (frames, none) ∧
      ∃ fs, Spec.decodeFrames frames.flatten = some fs ∧ fs ≠ [] ∧
        Spec.messageShape opcode.toNat false (fs.map (·.1)) ∧
        (∀ f ∈ fs, Spec.wellFormedSent (!cfg.isServer) f.1) ∧
        fs.map (·.2) = (readChunks script).1 := by
  have hkeys : ∀ i, (goBytesU32LE (maskNums i)).length = 4 := fun i => by simp [goBytesU32LE]
  have hT := uncompressed_WriteFile_translated cfg codec false opcode script maskNums hlen
  rw [Writer.splitReader_eq _ _ cfg.writeMax (fileCb_ok cfg codec opcode.toNat _ hop hkeys) script 0 hfit heof] at hT
  have hM := framesOf_message cfg opcode.toNat _ hop hkeys script heof (fun c hc => Nat.lt_of_le_of_lt (hfit c hc) hmax)
  rw [hpd] at hM
  exact ⟨_, hT, hM⟩

example :
    let cfg : Cfg := { isServer := true, pdEnabled := false, threshold := 0, bits := 15, writeMax := 1024, checkUtf8 := false }
    let script : ReaderScript := [([1, 2], false), ([3], true)]
    let opcode : UInt8 := 2
    opcode.toNat < 16 ∧ cfg.writeMax < 2 ^ 63 ∧ cfg.pdEnabled = false ∧ (readChunks script).2 = true ∧
      (∀ c ∈ (readChunks script).1, c.length ≤ cfg.writeMax) ∧ (∀ rd ∈ script, rd.1.length < 2 ^ 62) := by
  simp [readChunks]

/-- the compressed path: the calling sequence of `bigDeflater.Compress` over the translated aggregator (`TransEquiv.FW.compressT`:
the compressor's `Write` calls `outs` — any cutting of any output —, then `Flush`), with the translated callback and the
translated `genFrame`: no error, and the bytes written decode as ONE message — `opcode, 0, 0, …`, FIN exactly on the last frame,
RSV1 exactly on the first — of well-formed frames whose concatenated payloads are the compressor's output minus exactly one
trailing `00 00 ff ff` (the hold-back never lets part of the trailer escape in an earlier frame). -/
theorem streamed_compressed_message_frames (cfg : Cfg) (codec : Codec) (opcode : UInt8) (outs : List Bytes) (maskNums : Nat → UInt32)
    (hop : opcode.toNat < 16) (hmax : cfg.writeMax < 2 ^ 63) (hpd : cfg.pdEnabled = true)
    (hne : outs ≠ []) (hfit : outs.flatten.length ≤ cfg.writeMax) (hlen : outs.flatten.length < 2 ^ 62) :
    ∃ frames : List Bytes,
      TransEquiv.FW.compressT
          (fun (st : List Bytes) (index : Nat) (eof : Bool) (p : Bytes) =>
            match Trans.Conn_doWriteFile_frame (c_pd_Enabled := cfg.pdEnabled) (c_genFrame := genFrameT cfg (maskNums index))
                (closed := false) (eof := eof) (index := (index : Int)) (opcode := opcode) (p := p) with
            | .ok frame => (st ++ [frame], none)
            | .error e => (st, e))
          [] true outs = some (frames, none) ∧
      ∃ fs, Spec.decodeFrames frames.flatten = some fs ∧ fs ≠ [] ∧
        Spec.messageShape opcode.toNat true (fs.map (·.1)) ∧
        (∀ f ∈ fs, Spec.wellFormedSent (!cfg.isServer) f.1) ∧
        (fs.map (·.2)).flatten = stripTail outs.flatten := by
  have hkeys : ∀ i, (goBytesU32LE (maskNums i)).length = 4 := fun i => by simp [goBytesU32LE]
  have hc0 := compressFile_eq _ _ cfg.writeMax (fileCb_ok cfg codec opcode.toNat _ hop hkeys) outs hne hfit
  obtain ⟨hc1, hc2, hc3⟩ := planScript_chunks outs
  obtain ⟨fs, h1, h2, h3, h4, h5⟩ := framesOf_message cfg opcode.toNat _ hop hkeys (planScript outs) hc1
    (fun c hc => Nat.lt_of_le_of_lt (Nat.le_trans (hc3 c hc) hfit) hmax)
  rw [hpd] at h3
  refine ⟨_, (FW.compressT_eq _
    (fun index eof p => fileFrame cfg codec false opcode.toNat index eof p (goBytesU32LE (maskNums index))) true outs hne
    fun st k eof p hp => ?_).trans (by rw [hc0]; rfl), fs, h1, h2, h3, h4, by rw [h5]; exact hc2⟩
  simp only [FW.cbOf]
  rcases cb_translated_cases cfg codec false opcode (maskNums k) k eof p (by omega) with ⟨b, h1, h2⟩ | ⟨e, h1, h2⟩ <;>
    rw [h1, h2]

end TransProps
