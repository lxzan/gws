import Gws.Props.TransReader
/-!
# T3 — `readMessage` after the payload read (reader.go), translated from the source on every run, equals the
model's fragmentation state machine `Reader.afterPayload`

`emitMessage` is left uninterpreted by the translation (`Trans.Conn_readMessage_afterPayload` is polymorphic in
the result type): here it is instantiated with the constructors of `Decision`, and `interp` maps a decision to
what the model does next.
-/
namespace TransEquiv

/-- what the translated segment decides: return an error value / `nil`, or hand a message to `emitMessage` -/
inductive Decision where
  | ret (e : Option GoErr)
  | emit (opcode : UInt8) (data : Bytes) (compressed : Bool)

/-- the continuation state of the model from the four fields of `continuationFrame` -/
def contOf (buffer : Bytes) (compressed initialized : Bool) (opcode : UInt8) : Reader.Cont :=
  { initialized := initialized, compressed := compressed, opcode := opcode.toNat, buffer := buffer }

/-- what the model does with a decision (`rest` = the unread input).  Outcomes the segment does not have today (it falls
through without returning, it returns another error value) are given values `Reader.afterPayload` never returns, a `.panic`
and `ioErr`, so that `afterPayload_eq` fails should the code come to have one; `interpC` does the same for `readControl`. -/
def interp (cfg : Reader.Cfg) (codec : Codec) (st : Reader.State) (rest : Bytes) :
    Except (Bytes × Bool × Bool × UInt8 × Decision) (Bytes × Bool × Bool × UInt8) → Reader.Step
  | .ok _ => .stop [] (.panic "the segment always returns")
  | .error (buffer, compressed, initialized, opcode, d) =>
    let st' : Reader.State := { st with cont := contOf buffer compressed initialized opcode }
    match d with
    | .ret none => .ok st' [] rest
    | .ret (some (.status 1002)) => .stop [] Reader.protoErr
    | .ret (some (.status 1009)) => .stop [] Reader.tooLarge
    | .ret (some _) => .stop [] Reader.ioErr
    | .emit op data comp =>
      match Reader.emitMessage cfg codec st' op.toNat data comp with
      | .inl (st'', ev) => .ok st'' ev.toList rest
      | .inr e => .stop [] e

/-- the fragmentation state machine of `readMessage` = `Reader.afterPayload`.  `opcode`, `fin`, `compressed` are the
values the header segment computed (`readMessage_header_eq`); `st.cont.opcode` is an opcode the code stored, i.e. a
byte. -/
theorem afterPayload_eq (cfg : Reader.Cfg) (codec : Codec) (st : Reader.State) (h : Frame.Hdr) (p rest buf : Bytes)
    (opcode : UInt8) (hop : opcode.toNat = Frame.getOpcode h.b0) (hst : st.cont.opcode < 256) :
    interp cfg codec st rest
      (Trans.Conn_readMessage_afterPayload Decision.ret Decision.emit
        (c_continuationFrame_initialized := st.cont.initialized) (c_continuationFrame_compressed := st.cont.compressed)
        (c_continuationFrame_opcode := UInt8.ofNat st.cont.opcode) (c_continuationFrame_buffer := st.cont.buffer)
        (c_config_ReadMaxPayloadSize := cfg.readMax) (opcode := opcode) (fin := Frame.getFIN h.b0) (p := p) (buf := buf)
        (compressed := cfg.pdEnabled && Frame.getRSV1 h.b0))
      = Reader.afterPayload cfg codec st h p rest := by
  obtain ⟨⟨ini, cmp, op, cb⟩, dps⟩ := st
  simp only at hst
  have hop' : (UInt8.ofNat op).toNat = op := by
    simp [UInt8.toNat_ofNat']; omega
  have h0 : (opcode != 0) = decide (opcode.toNat ≠ 0) := by simp [bne, u8_beq]
  unfold Trans.Conn_readMessage_afterPayload Reader.afterPayload Trans.continuationFrame_reset
  simp only [← hop, h0, Facts.opContinuation]
  generalize Frame.getFIN h.b0 = fin
  generalize (cfg.pdEnabled && Frame.getRSV1 h.b0) = comp
  by_cases hz : opcode.toNat = 0 <;> cases fin <;> cases ini <;> simp [hz, interp, contOf, hop']
  -- continuation frame, not final, a message is open: append, size check
  · by_cases hm : cfg.readMax < ↑(List.length cb) + ↑(List.length p) <;> simp [hm, hop']
  -- continuation frame, final: append, size check, emit and reset
  · by_cases hm : cfg.readMax < ↑(List.length cb) + ↑(List.length p) <;> simp [hm, hop']
    rfl
  -- first fragment
  · by_cases hm : cfg.readMax < ↑(List.length p) <;> simp [hm]
  -- unfragmented message
  · rfl

end TransEquiv
