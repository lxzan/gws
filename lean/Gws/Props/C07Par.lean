import Gws.Basic
import Gws.Model.Conc.Parallel
/-!
# C07 — parallel handling: bounded parallelism, exactly once, panics absorbed

Statement (the parallel clauses): with parallel handling each message still reaches the handler
exactly once, never more than the configured number of handlers run concurrently (the reader applies
back-pressure instead), and a panic inside a message handler is absorbed by the configured recovery
function without losing or duplicating later messages.

Every theorem is over all schedules (any interleaving of the reader's dispatches with handler
completions, any assignment of return/panic outcomes), unbounded.  Assumed: a channel send on a
full buffered channel blocks; `defer`/`recover` semantics as described in the model's header.
-/

namespace Par

structure Inv (msgs : List Nat) (s : State) : Prop where
  bounded : s.running.length ≤ s.cap
  order : s.dispatched ++ s.inbox = msgs
  once : s.dispatched.Perm (s.handled ++ s.running)

theorem inv_init (cap : Nat) (rec : Bool) (msgs : List Nat) : Inv msgs (init cap rec msgs) := by
  constructor <;> simp [init]

theorem step_cases {s s' : State} {a : Action} (h : step s a = some s') :
    s.crashed = false ∧
    match a with
    | .dispatch => ∃ m rest, s.inbox = m :: rest ∧ s.running.length < s.cap ∧
        s' = { s with inbox := rest, running := m :: s.running, dispatched := s.dispatched ++ [m] }
    | .finish m o => m ∈ s.running ∧
        s' = if o = .panics ∧ ¬ s.recovers then { s with crashed := true }
             else { s with running := s.running.erase m, handled := s.handled ++ [m] } := by
  cases a with
  | dispatch =>
    simp only [step] at h
    split at h
    · cases h
    · rename_i hc
      split at h
      · cases h
      · rename_i m rest hin
        split at h
        · rename_i hlt; exact ⟨by simpa using hc, m, rest, hin, hlt, (Option.some.inj h).symm⟩
        · cases h
  | finish m o =>
    simp only [step] at h
    split at h
    · cases h
    · rename_i hc
      simp only [not_or, Bool.not_eq_true, Decidable.not_not] at hc
      refine ⟨hc.1, hc.2, ?_⟩
      split at h
      · rename_i hp; rw [if_pos hp]; exact (Option.some.inj h).symm
      · rename_i hp; rw [if_neg hp]; exact (Option.some.inj h).symm

theorem step_frame {s s' : State} {a : Action} (h : step s a = some s') : s'.cap = s.cap ∧ s'.recovers = s.recovers := by
  have hi := (step_cases h).2
  cases a with
  | dispatch => obtain ⟨_, _, _, _, rfl⟩ := hi; exact ⟨rfl, rfl⟩
  | finish m o =>
    obtain ⟨_, rfl⟩ := hi
    split <;> exact ⟨rfl, rfl⟩

theorem inv_step {msgs : List Nat} {s s' : State} {a : Action} (hi : Inv msgs s)
    (h : step s a = some s') : s'.crashed = true ∨ Inv msgs s' := by
  obtain ⟨h1, h2, h3⟩ := hi
  have hs := (step_cases h).2
  cases a with
  | dispatch =>
    obtain ⟨m, rest, hin, hlt, rfl⟩ := hs
    exact Or.inr ⟨by simp; omega, by simp [← h2, hin], perm_start m h3⟩
  | finish m o =>
    obtain ⟨hm, rfl⟩ := hs
    split
    · exact Or.inl rfl
    · exact Or.inr ⟨by simp only; rw [List.length_erase_of_mem hm]; omega, h2, perm_finish hm h3⟩

theorem run_cons (s : State) (a : Action) (as : List Action) :
    run s (a :: as) = (step s a).bind fun s' => run s' as := by
  simp only [run]; cases step s a <;> rfl

theorem inv_run_from (msgs : List Nat) (s0 : State) (h0 : s0.crashed = true ∨ Inv msgs s0) (as : List Action)
    (s : State) (h : run s0 as = some s) : s.crashed = true ∨ Inv msgs s :=
  run_invariant (P := fun _ s => s.crashed = true ∨ Inv msgs s) (fun _ => rfl) run_cons
    (fun s a _ s' hP hs => inv_step (hP.resolve_left (by rw [(step_cases hs).1]; simp)) hs)
    as s0 s h0 h

theorem run_frame (as : List Action) (s0 s : State) (h : run s0 as = some s) :
    s.cap = s0.cap ∧ s.recovers = s0.recovers :=
  run_invariant (P := fun _ s => s.cap = s0.cap ∧ s.recovers = s0.recovers) (fun _ => rfl) run_cons
    (fun _ _ _ _ hP hs => ⟨(step_frame hs).1.trans hP.1, (step_frame hs).2.trans hP.2⟩) as s0 s ⟨rfl, rfl⟩ h

/-- **Every schedule.** Unless an unrecovered panic has killed the process, the invariant holds
after any sequence of dispatches and handler completions. -/
theorem inv_run (cap : Nat) (rec : Bool) (msgs : List Nat) (as : List Action) (s : State)
    (h : run (init cap rec msgs) as = some s) : s.crashed = true ∨ Inv msgs s :=
  inv_run_from msgs _ (Or.inr (inv_init cap rec msgs)) as s h

/-- **Never more than the configured number of handlers at once.** -/
theorem parallel_bounded (cap : Nat) (rec : Bool) (msgs : List Nat) (as : List Action) (s : State)
    (h : run (init cap rec msgs) as = some s) (hc : s.crashed = false) : s.running.length ≤ cap := by
  rcases inv_run cap rec msgs as s h with h1 | h1
  · simp [hc] at h1
  · have := (run_frame as _ s h).1
    have := h1.bounded
    simp [init] at *; omega

/-- **Back-pressure, not loss.** While `cap` handlers are running the reader's dispatch is not
enabled (it blocks on the channel); the undispatched messages stay in the inbox in wire order. -/
theorem reader_blocks_at_limit (s : State) (h : s.running.length = s.cap) : step s .dispatch = none := by
  simp only [step]
  split
  · rfl
  · split
    · rfl
    · simp [h]

/-- **Exactly once, in wire order of dispatch.** The messages dispatched so far are a prefix of the
wire order, and each of them is either running or handled — exactly once (as multisets). When the
inbox is empty and no handler is running, the handled messages are a permutation of all messages. -/
theorem each_message_once (cap : Nat) (rec : Bool) (msgs : List Nat) (as : List Action) (s : State)
    (h : run (init cap rec msgs) as = some s) (hc : s.crashed = false) :
    s.dispatched <+: msgs ∧ s.dispatched.Perm (s.handled ++ s.running) ∧
    (s.inbox = [] → s.running = [] → s.handled.Perm msgs) := by
  rcases inv_run cap rec msgs as s h with h1 | h1
  · simp [hc] at h1
  · refine ⟨⟨s.inbox, h1.order⟩, h1.once, ?_⟩
    intro hi hr
    have ho := h1.order
    have hp := h1.once
    rw [hi, List.append_nil] at ho
    rw [hr, List.append_nil, ho] at hp
    exact hp.symm

/-- **A recovered panic is a return.** With a recovery function that recovers, a handler that
panics changes the state exactly as one that returns: its slot is released, it counts as handled,
and no later message is lost or duplicated (`each_message_once` holds for the whole schedule). -/
theorem panic_absorbed (s : State) (m : Nat) (hr : s.recovers = true) :
    step s (.finish m .panics) = step s (.finish m .returns) := by
  simp [step, hr]

/-- and it never crashes the process -/
theorem no_crash_when_recovering (cap : Nat) (msgs : List Nat) (as : List Action) (s : State)
    (h : run (init cap true msgs) as = some s) : s.crashed = false := by
  refine (run_invariant (P := fun _ s => s.crashed = false ∧ s.recovers = true) (fun _ => rfl) run_cons
    (fun s a _ s' hP hs => ?_) as _ s ⟨rfl, rfl⟩ h).1
  obtain ⟨hc, hr⟩ := hP
  refine ⟨?_, by rw [(step_frame hs).2, hr]⟩
  have hi := (step_cases hs).2
  cases a with
  | dispatch => obtain ⟨_, _, _, _, rfl⟩ := hi; exact hc
  | finish m o => obtain ⟨_, rfl⟩ := hi; rw [if_neg (by simp [hr])]; exact hc

/-- Witness: with the DEFAULT recovery function (which does not call `recover`) a panicking handler
kills the process. This is the documented behaviour ("no recover is done"), recorded here so that the
hypothesis of `panic_absorbed` is visibly necessary. -/
theorem unrecovered_panic_crashes :
    (run (init 2 false [1, 2]) [.dispatch, .finish 1 .panics]).map (·.crashed) = some true := by decide

-- non-vacuity: limit 2, three messages, one handler panics and is recovered
example : (run (init 2 true [1, 2, 3]) [.dispatch, .dispatch, .finish 1 .panics, .dispatch, .finish 3 .returns, .finish 2 .returns]).map
    (fun s => (s.handled, s.running, s.inbox, s.crashed)) = some ([1, 3, 2], [], [], false) := by decide
example : step (init 2 true [1, 2, 3]) .dispatch ≠ none ∧
    (run (init 2 true [1, 2, 3]) [.dispatch, .dispatch, .dispatch]) = none := by decide

end Par
