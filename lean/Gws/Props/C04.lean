import Gws.Lemmas.ReaderLoop
/-!
# C04 — no input crashes, hangs or over-allocates (framed protocol)

Statement: for every configuration, every reader state and every byte stream, the read loop
terminates, never reaches one of the places where the Go code would panic (the model makes them
explicit as `End.panic`), and never asks the buffer pool for more than the configured limit plus
the 9-byte deflate tail; the continuation buffer never grows beyond the limit.

The model follows the repaired code: a 64-bit length with the top bit set is a negative Go `int`
and is rejected by `headerCheck` before any allocation; `Pool.cap` bypasses the `uint32` rounding
above the largest pooled size.
-/

namespace Reader

/-- **C04, totality.** `readLoop` is a total function: every input yields a trace with an ending.
The content of this statement is that Lean accepted the definition of `readLoop`, whose recursion
is justified by `step_decreases`: every iteration that continues has consumed at least 2 bytes, so
the loop cannot hang on any input. -/
theorem readLoop_total (cfg : Cfg) (codec : Codec) (st : State) (b : Bytes) :
    ∃ t : Trace, readLoop cfg codec st b = t ∧
      ∀ st' evs rest, step cfg codec st b = .ok st' evs rest → rest.length + 2 ≤ b.length :=
  ⟨_, rfl, fun _ _ _ h => step_decreases h⟩

/-- **C04, no panic.** On no input, in no state and under no configuration does the loop end in a
panic: the slice expression `buf.Bytes()[:contentLength]` is always in range (`Pool.cap_ge`,
`headerCheck` rejects negative lengths). -/
theorem readLoop_no_panic (cfg : Cfg) (codec : Codec) (st : State) (b : Bytes) :
    ∀ w, (readLoop cfg codec st b).ending ≠ .panic w := fun w hw => by
  have := (readLoop_sound cfg codec st b).2
  rw [hw] at this
  exact Bool.noConfusion this

/-- **C04, allocation bound.** Whenever the header checks pass — the only way `step` reaches
`dataFrame`, where the payload buffer is requested — the declared length is between 0 and the read
limit, so the request to the pool is at most `readMax + len(flateTail)` = `readMax + 9` bytes, and
it is made only after the whole header has been judged. -/
theorem step_alloc_bound (cfg : Cfg) (codec : Codec) (st : State) (b : Bytes) (h : Frame.Hdr) (rest : Bytes)
    (hp : Frame.parse b = .ok h rest) (hc : headerCheck cfg h = none) :
    (step cfg codec st b =
      if Frame.getOpcode h.b0 > Facts.dataFrameMaxOpcode then readControl cfg st h rest
      else dataFrame cfg codec st h rest) ∧
    0 ≤ h.len ∧ h.len ≤ cfg.readMax ∧
    ((h.len.toNat + Facts.flateTail.length : Nat) : Int) ≤ cfg.readMax + 9 := by
  have hb := headerCheck_none_bound hc
  refine ⟨?_, hb.1, hb.2, ?_⟩
  · rw [step_of_parse hp, hc]
  · have : Facts.flateTail.length = 9 := rfl
    omega

/-- **C04, rejection before allocation.** A header that fails a check stops the step before anything is allocated or
read. -/
theorem step_rejects_before_alloc (cfg : Cfg) (codec : Codec) (st : State) (b : Bytes) (h : Frame.Hdr)
    (rest : Bytes) (e : End) (hp : Frame.parse b = .ok h rest) (hc : headerCheck cfg h = some e) :
    step cfg codec st b = .stop [] e := by
  rw [step_of_parse hp, hc]

/-- **C04, buffered bytes.** The continuation buffer never exceeds the read limit: the bound is
preserved by every step that continues. -/
theorem cont_buffer_bounded (cfg : Cfg) (codec : Codec) (st st' : State) (b rest : Bytes) (evs : List Ev)
    (hb : (st.cont.buffer.length : Int) ≤ cfg.readMax)
    (hs : step cfg codec st b = .ok st' evs rest) :
    (st'.cont.buffer.length : Int) ≤ cfg.readMax :=
  ((step_sound cfg codec st b).ok hs).1 hb

/-- the 14 bytes that used to kill the process: 64-bit length with the top bit set, to a server.
The length is a negative Go `int`; the model rejects it with 1009 before any allocation. -/
example (codec : Codec) :
    step { isServer := true, pdEnabled := false, readMax := 1024, checkUtf8 := true } codec {}
      [0x82, 0xFF, 0xFF, 0xFF, 0xFF, 0xFF, 0xFF, 0xFF, 0xFF, 0xFF, 1, 2, 3, 4] = .stop [] (.err (.status 1009)) := by
  reader_eval []

/-- `Frame.parse` really produces a negative length there -/
example : ∃ h rest, Frame.parse [0x82, 0xFF, 0xFF, 0xFF, 0xFF, 0xFF, 0xFF, 0xFF, 0xFF, 0xFF, 1, 2, 3, 4] = .ok h rest ∧
    h.len = -1 := by
  refine ⟨_, _, rfl, ?_⟩
  decide

/-- a header that passes the checks (so that, by `step_alloc_bound`, the allocation request is 3 + 9 bytes) -/
example : headerCheck { isServer := false, pdEnabled := false, readMax := 1024, checkUtf8 := true }
    { b0 := 0x82, b1 := 3, len := 3, key := [] } = none := by
  decide

end Reader
