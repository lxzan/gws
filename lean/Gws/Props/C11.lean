import Gws.Lemmas.Handshake
/-!
# C11 — client handshake: fresh key, strict validation of the 101 response

Statement (properties.jsonl): the client sends a well-formed upgrade request with a fresh random
16-byte base64 key and the configured headers, and returns a connection only if the response is 101
with Upgrade: websocket, a Connection upgrade token and a Sec-WebSocket-Accept matching its key
(and, when it requested subprotocols, one of them selected).  Otherwise it returns an error and
closes the transport, within the handshake timeout even if the server never answers.  Frames the
server sends directly behind its 101 response, even in the same segment, are not lost.

The input is the response as `http.ReadResponse` parsed it; `key` is the `Sec-WebSocket-Key` this
connector sent.  Remaining latitude, as on the server side (C10): `Upgrade` is read from its first line,
as a whole, and compared by Unicode simple case folding (`Hs.foldEq`; `websocKet` with U+212A passes,
see `Hs.nonascii_fold_accepted`); the two `Sec-WebSocket-Protocol` values (configured request header,
response) are read from their first line only.

Clauses covered by the tie only (suite `hs-client`), because they are facts about the run-time
environment and not about the decision logic:
* the key is fresh and random (`hs-client keys N`: all distinct, all 16 bytes); that it is the base64
  form of 16 bytes drawn from the PRNG is tied to the source by `TransEquiv.request_headers_eq`;
* the request bytes are well formed (written by net/http's `Request.Write`, observed through a real
  `http.ReadRequest` on the scripted server);
* the call returns within the handshake time-out even if the server never answers or stops in the
  middle of the response, and the transport is closed then;
* frames glued behind the 101 response (same write, or cut at arbitrary offsets) are all delivered
  by the subsequent `ReadLoop` (the buffered reader that parsed the response is the one the
  connection reads frames from).
-/

namespace Hs

open Sha1 (asc)

/-- **C11, decision.**  For every parsed response, key and option set: a connection is returned iff
the status is 101, some `Connection` line has `upgrade` (any ASCII letter case) among its
comma-separated elements, the (first) `Upgrade` value is `websocket` up to case folding,
`Sec-WebSocket-Accept` is EXACTLY base64(SHA-1(key ++ GUID)), and the client requested no
sub-protocol or one of those it requested is among the comma-separated elements of the response's
`Sec-WebSocket-Protocol`. -/
theorem client_accepts_iff (o : ClientOpt) (key : Str) (resp : Resp) :
    (clientOutcome o key resp).conn ≠ none ↔
      (resp.status = 101 ∧
       HasToken (vals resp.header kConnection) (asc "upgrade") ∧
       foldEq (get resp.header kUpgrade) (asc "websocket") = true ∧
       get resp.header kAccept = Base64.encode (Sha1.sha1 (key ++ asc Facts.magicNumber)) ∧
       (split (get o.requestHeader kProtocol) = [] ∨
        ∃ p, p ∈ split (get o.requestHeader kProtocol) ∧ p ∈ split (get resp.header kProtocol))) := by
  simp only [Option.ne_none_iff_exists', conn_eq_some_iff, clientHandshake_ok_iff, RespChecksPass, containsToken_iff,
    acceptKey, intersectionElem_ne_nil_iff _ _ (fun x hx => mem_split_ne_nil hx), exists_and_left, exists_eq_left,
    and_assoc]

/-- **C11, refused.**  When no connection is returned, an error is returned and the transport is
closed; when one is returned, no error is returned and the transport is left open. -/
theorem client_reject_closes (o : ClientOpt) (key : Str) (resp : Resp) :
    ((clientOutcome o key resp).conn = none →
      (clientOutcome o key resp).closed = true ∧ (clientOutcome o key resp).err ≠ none) ∧
    ((clientOutcome o key resp).conn ≠ none →
      (clientOutcome o key resp).closed = false ∧ (clientOutcome o key resp).err = none) := by
  unfold clientOutcome
  cases clientHandshake o key resp <;> simp

/-- **C11, selected sub-protocol.**  The sub-protocol the returned connection exposes is the FIRST of
the requested ones that the response lists (and the empty string when none was requested). -/
theorem selected_subprotocol (o : ClientOpt) (key : Str) (resp : Resp) (sp : Str)
    (h : (clientOutcome o key resp).conn = some sp) :
    if split (get o.requestHeader kProtocol) = [] then sp = []
    else FirstCommon (split (get o.requestHeader kProtocol)) (split (get resp.header kProtocol)) sp := by
  obtain ⟨-, rfl, hs⟩ := (clientHandshake_ok_iff o key resp sp).1 ((conn_eq_some_iff o key resp sp).1 h)
  split
  · rename_i hnil
    simp [hnil, intersectionElem]
  · rename_i hne
    exact firstCommon_of_ne_nil (hs.resolve_left hne)

/-- **C11, request header.**  Whatever the application configured, the header map of the request
holds exactly one value under each of `Connection`, `Upgrade`, `Sec-WebSocket-Version`,
`Sec-WebSocket-Key` — `Upgrade`, `websocket`, `13` and the key — and, when compression is enabled,
the generated offer under `Sec-WebSocket-Extensions`: configured headers under these names in Go's
canonical spelling are overridden.  What is configured under any other key is carried unchanged; that
includes the same names in another spelling (`connection`), which `r.Header[k] = v` copies as keys of
their own. -/
theorem request_headers (o : ClientOpt) (key : Str) (ext : Option Str) :
    values (requestHeader o key ext) (canon kConnection) = [asc "Upgrade"] ∧
    values (requestHeader o key ext) (canon kUpgrade) = [asc "websocket"] ∧
    values (requestHeader o key ext) (canon kVersion) = [asc "13"] ∧
    values (requestHeader o key ext) (canon kKey) = [key] ∧
    (∀ v, ext = some v → values (requestHeader o key ext) (canon kExtensions) = [v]) ∧
    (∀ k, k ∉ [canon kConnection, canon kUpgrade, canon kVersion, canon kKey, canon kExtensions] →
      values (requestHeader o key ext) k = values o.requestHeader k) ∧
    (ext = none →
      values (requestHeader o key ext) (canon kExtensions) = values o.requestHeader (canon kExtensions)) := by
  have hd : [canon kConnection, canon kUpgrade, canon kVersion, canon kExtensions, canon kKey].Pairwise (· ≠ ·) := by
    -- `String.toList_ofList`: the kernel decodes `"…".toList` slowly (see `nego_literals`, Lemmas/Nego)
    unfold kConnection kUpgrade kVersion kExtensions kKey asc
    repeat rw [String.toList_ofList]
    decide +kernel
  simp only [List.pairwise_cons, List.mem_cons, List.not_mem_nil, or_false, forall_eq_or_imp, forall_eq,
    List.Pairwise.nil, and_true] at hd
  obtain ⟨⟨hCU, hCV, hCE, hCK⟩, ⟨hUV, hUE, hUK⟩, ⟨hVE, hVK⟩, hEK⟩ := hd
  cases ext <;>
    simp [requestHeader, values_set, hCU, hCV, hCE, hCK, hUV, hUE, hUK, hVE, hVK, hEK, hCE.symm, hUE.symm, hVE.symm]
  · intro k h1 h2 h3 h4 _; simp [h1, h2, h3, h4]
  · intro k h1 h2 h3 h4 h5; simp [h1, h2, h3, h4, h5]

-- non-vacuity: the RFC 6455 sample exchange is accepted, each check can fail, selection follows
-- the client's order of preference; the token may sit on a later line, in any case, between blanks;
-- letters around it do not make a token
example : (clientOutcome ⟨[]⟩ (asc "dGhlIHNhbXBsZSBub25jZQ==")
      (sampleResponse [asc "keep-alive", asc "x ,\tUPGRADE "] (asc "s3pPLMBiTxaQ9kYGzzhZRbK+xOo=") [])).conn = some [] := by
  rw [clientOutcome, clientHandshake, checkHeaders, sample_accept]; decide +kernel
example : clientOutcome ⟨[]⟩ (asc "dGhlIHNhbXBsZSBub25jZQ==")
      (sampleResponse [asc "upgradex", asc "no-upgrade", asc "keep-alive, upgrades"] (asc "s3pPLMBiTxaQ9kYGzzhZRbK+xOo=") [])
    = { conn := none, closed := true, err := some .connection } := by decide +kernel
example : clientOutcome ⟨[(canon kProtocol, [asc "chat, mqtt"])]⟩ (asc "dGhlIHNhbXBsZSBub25jZQ==")
      (sampleResponse [asc "upgrade"] (asc "s3pPLMBiTxaQ9kYGzzhZRbK+xOo=") [asc "mqtt,chat"])
    = { conn := some (asc "chat"), closed := false, err := none } := by
  rw [clientOutcome, clientHandshake, checkHeaders, sample_accept]; decide +kernel
example : clientOutcome ⟨[]⟩ (asc "dGhlIHNhbXBsZSBub25jZQ==")
      { sampleResponse [asc "upgrade"] (asc "s3pPLMBiTxaQ9kYGzzhZRbK+xOo=") [] with status := 200 }
    = { conn := none, closed := true, err := some .status } := by decide +kernel
example : clientOutcome ⟨[]⟩ (asc "dGhlIHNhbXBsZSBub25jZQ==") (sampleResponse [asc "upgrade"] (asc "s3pPLMBiTxaQ9kYGzzhZRbK+xOo") [])
    = { conn := none, closed := true, err := some .accept } := by
  rw [clientOutcome, clientHandshake, checkHeaders, sample_accept]; decide +kernel
example : clientOutcome ⟨[]⟩ (asc "dGhlIHNhbXBsZSBub25jZQ==")
      { status := 101, header := [(canon kConnection, [asc "close"])] }
    = { conn := none, closed := true, err := some .connection } := by decide +kernel
example : clientOutcome ⟨[]⟩ (asc "dGhlIHNhbXBsZSBub25jZQ==")
      { status := 101, header := [(canon kConnection, [asc "Upgrade"]), (canon kUpgrade, [asc "h2c"])] }
    = { conn := none, closed := true, err := some .upgrade } := by decide +kernel
example : clientOutcome ⟨[(canon kProtocol, [asc "chat"])]⟩ (asc "dGhlIHNhbXBsZSBub25jZQ==")
      (sampleResponse [asc "upgrade"] (asc "s3pPLMBiTxaQ9kYGzzhZRbK+xOo=") [asc "mqtt"])
    = { conn := none, closed := true, err := some .subprotocol } := by
  rw [clientOutcome, clientHandshake, checkHeaders, sample_accept]; decide +kernel
example : (requestHeader ⟨[(canon kConnection, [asc "close"]), (asc "X-Token", [asc "t"])]⟩ (asc "K") none)
    = [(asc "X-Token", [asc "t"]), (canon kConnection, [asc "Upgrade"]), (canon kUpgrade, [asc "websocket"]),
       (canon kVersion, [asc "13"]), (canon kKey, [asc "K"])] := by decide +kernel

end Hs
