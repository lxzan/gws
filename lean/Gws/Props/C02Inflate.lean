import Gws.Lemmas.Inflate
/-!
# C02 (receiver half) — a window-limited inflater is as good as an unbounded-history one

The C02 tie inflates every compressed frame gws emits with the executable RFC 1951 inflater
`Spec.Inflate.runList` against the *unbounded* RFC 7692 history of the direction and records the largest
back-reference distance `d` the stream used.  A real receiver keeps only the last `2^bits` bytes of
that history.  The theorems below close that gap: whenever `d ≤ W`, inflating against the last `W`
bytes of the history (or against those bytes preceded by anything at all) succeeds with exactly the
same output and the same `d`.  Together with the bookkeeping theorem of `Gws/Props/C02.lean` (both
windows are `lastN (2^bits) hist`) this is the receiver half of "the context stays in sync".
-/

namespace Spec.Inflate

theorem runList_eq_some {hist data out : Bytes} {d : Nat} :
    runList hist data = some (out, d) ↔
      ∃ o : Array UInt8, run hist.toArray data.toArray = some (o, d) ∧ o.toList = out := by
  simp only [runList, Option.map_eq_some_iff, Prod.exists, Prod.mk.injEq]
  constructor
  · rintro ⟨o, d', h, rfl, rfl⟩; exact ⟨o, h, rfl⟩
  · rintro ⟨o, h, rfl⟩; exact ⟨o, d, h, rfl, rfl⟩

/-- **A history prefix beyond the largest distance is irrelevant**: `run_drop_prefix` for lists. -/
theorem history_prefix_irrelevant (pre hist data out : Bytes) (d : Nat)
    (h : runList (pre ++ hist) data = some (out, d)) (hd : d ≤ hist.length) :
    runList hist data = some (out, d) := by
  obtain ⟨o, hr, ho⟩ := runList_eq_some.mp h
  rw [← List.append_toArray] at hr
  exact runList_eq_some.mpr ⟨o, run_drop_prefix hr (by simpa using hd), ho⟩

/-- **More history never hurts**: `run_add_prefix` for lists. -/
theorem history_extension_harmless (pre hist data out : Bytes) (d : Nat)
    (h : runList hist data = some (out, d)) : runList (pre ++ hist) data = some (out, d) := by
  obtain ⟨o, hr, ho⟩ := runList_eq_some.mp h
  refine runList_eq_some.mpr ⟨o, ?_, ho⟩
  rw [← List.append_toArray]
  exact run_add_prefix _ hr

theorem history_iff (pre hist data out : Bytes) (d : Nat) (hd : d ≤ hist.length) :
    runList (pre ++ hist) data = some (out, d) ↔ runList hist data = some (out, d) :=
  ⟨fun h => history_prefix_irrelevant _ _ _ _ _ h hd, history_extension_harmless _ _ _ _ _⟩

/-- Equivalence form: for distances within the window, success against the full history and success
against the window are the same fact. -/
theorem bounded_window_iff (W : Nat) (hist data out : Bytes) (d : Nat) (hd : d ≤ W) :
    runList hist data = some (out, d) ↔ runList (lastN W hist) data = some (out, d) := by
  by_cases hl : hist.length ≤ W
  · rw [lastN_of_length_le W hist hl]
  · conv => lhs; rw [← take_append_lastN W hist]
    exact history_iff _ _ _ _ _ (by rw [lastN_length]; omega)

/-- **C02, receiver half: a bounded window suffices.**  If the stream inflates against the full
history `hist` to `out` and never reaches further back than `W` bytes, then a receiver that kept only
the last `W` bytes of the history inflates it to the same `out` (and observes the same largest
distance). -/
theorem bounded_window_suffices (W : Nat) (hist data : Bytes) (out : Bytes) (d : Nat)
    (h : Spec.Inflate.runList hist data = some (out, d)) (hd : d ≤ W) :
    Spec.Inflate.runList (lastN W hist) data = some (out, d) :=
  (bounded_window_iff W hist data out d hd).mp h

/-- The window determines the result: whatever a receiver holds in front of the last `W` bytes of
the history (`pre` arbitrary — stale data, nothing, or the true older history) the stream inflates to
the same output, provided its distances fit in `W`. -/
theorem window_determines_output (W : Nat) (pre hist data out : Bytes) (d : Nat)
    (h : runList hist data = some (out, d)) (hd : d ≤ W) :
    runList (pre ++ lastN W hist) data = some (out, d) :=
  history_extension_harmless _ _ _ _ _ (bounded_window_suffices W hist data out d h hd)

/-- a final stored block carrying "abc": no back-reference, `d = 0` -/
theorem ex_stored :
    runList [1, 2] [0x01, 0x03, 0x00, 0xfc, 0xff, 0x61, 0x62, 0x63] = some ([0x61, 0x62, 0x63], 0) := by
  decide +kernel

/-- zlib's fixed-Huffman raw deflate of "abcabc" with preset dictionary "0123456789abc": one match of
length 6 at distance 3 reaching into the history (`83 20 00`) -/
theorem ex_fixed_dist3 :
    runList [48, 49, 50, 51, 52, 53, 54, 55, 56, 57, 97, 98, 99] [0x83, 0x20, 0x00]
      = some ([97, 98, 99, 97, 98, 99], 3) := by
  -- put the table in for `fixedLit` before evaluating (`fixedLit_eq`)
  unfold runList run
  rw [blocks_succ]
  simp only [blockBody, fixedLit_eq]
  decide +kernel

/-- hence a receiver with a 4-byte window ("9abc") inflates it identically -/
example : runList [57, 97, 98, 99] [0x83, 0x20, 0x00] = some ([97, 98, 99, 97, 98, 99], 3) := by
  have h := bounded_window_suffices 4 _ _ _ _ ex_fixed_dist3 (by decide)
  simpa [lastN] using h

/-- and so does a receiver holding a 3-byte window preceded by junk -/
example : runList ([0, 0, 0, 0, 0] ++ [97, 98, 99]) [0x83, 0x20, 0x00] = some ([97, 98, 99, 97, 98, 99], 3) := by
  have h := window_determines_output 3 [0, 0, 0, 0, 0] _ _ _ _ ex_fixed_dist3 (by decide)
  simpa [lastN] using h

/-- the bound is sharp: with a 2-byte window the distance-3 match is out of reach -/
example : runList [98, 99] [0x83, 0x20, 0x00] = none := by
  unfold runList run
  rw [blocks_succ]
  simp only [blockBody, fixedLit_eq]
  decide +kernel

end Spec.Inflate
