import Gws.Props.TransReader
/-!
# T3 — `readControl` after its guards (reader.go), translated from the source on every run, equals the model's
`Reader.readControl`

The callbacks (`OnPing`, `OnPong`) and `emitClose` are left uninterpreted by the translation; here they are
instantiated with constructors of `CtlR`, and `interpC` maps the outcome to what the model does.
-/
namespace TransEquiv

/-- what the translated segment does: callbacks in order, then a returned error value / `nil`, or `emitClose(body)` -/
inductive CtlR where
  | ret (e : Option GoErr)
  | close (body : Bytes)
  | ev (e : Reader.Ev) (next : CtlR)

abbrev CtlK := Except (Bytes × CtlR) Bytes

/-- a callback in statement position: the event is recorded in front of whatever follows -/
def ctlEv (mk : Bytes → Reader.Ev) (p : Bytes) (k : CtlK) : CtlK :=
  match k with
  | .error (br, r) => .error (br, .ev (mk p) r)
  | .ok x => .ok x

/-- what the model does with the outcome (`br` = the unread input afterwards) -/
def interpC (cfg : Reader.Cfg) (st : Reader.State) : CtlK → Reader.Step
  | .ok _ => .stop [] (.panic "the segment always returns")
  | .error (br, .ev e (.ret none)) => .ok st [e] br
  | .error (_, .close body) => .stop [] (.peerClose (Close.emitClose cfg.checkUtf8 body))
  | .error (_, .ret (some (.coded c))) => .stop [] (.err (.coded c.toNat))
  | .error (_, .ret (some .io)) => .stop [] Reader.ioErr
  | .error (_, _) => .stop [] (.panic "unexpected outcome")

private theorem dispatch_eq (cfg : Reader.Cfg) (st : Reader.State) (op : UInt8) (p br : Bytes) :
    interpC cfg st
      (if (op == (9 : UInt8)) then ctlEv Reader.Ev.ping p (Except.error (br, CtlR.ret none))
       else if (op == (10 : UInt8)) then ctlEv Reader.Ev.pong p (Except.error (br, CtlR.ret none))
       else if (op == (8 : UInt8)) then Except.error (br, CtlR.close p)
       else Except.error (br, CtlR.ret (some (GoErr.coded (1002 : UInt16)))))
      = (if op.toNat = Facts.opPing then .ok st [.ping p] br
         else if op.toNat = Facts.opPong then .ok st [.pong p] br
         else if op.toNat = Facts.opClose then .stop [] (.peerClose (Close.emitClose cfg.checkUtf8 p))
         else .stop [] (.err (.coded Facts.closeProtocolError))) := by
  simp only [u8_beq, Facts.opPing, Facts.opPong, Facts.opClose, Facts.closeProtocolError]
  by_cases e1 : op.toNat = 9
  · simp [e1, ctlEv, interpC]
  · by_cases e2 : op.toNat = 10
    · simp [e2, ctlEv, interpC]
    · by_cases e3 : op.toNat = 8
      · simp [e3, interpC]
      · simp [e1, e2, e3, interpC]

/-- `readControl` behind its guards = `Reader.readControl`.  `fh` is the header array after `Parse` (`Parse_eq`):
its first two bytes are those of `h`, and bytes 10..13 are the mask key when the mask bit is set; `n` is the length code
the guards computed (`readControl_guards_eq`). -/
theorem readControl_body_eq (cfg : Reader.Cfg) (st : Reader.State) (h : Frame.Hdr) (fh rest : Bytes)
    (hlen : fh.length = 14) (h0 : (goIdx fh 0).toNat = h.b0) (h1 : (goIdx fh 1).toNat = h.b1)
    (hkey : Frame.getMask h.b1 = true → (fh.drop 10).take 4 = h.key) (hk4 : Frame.getMask h.b1 = true → h.key.length = 4)
    (hfin : Frame.getFIN h.b0 = true) (hn : Frame.getLengthCode h.b1 ≤ Facts.thresholdV1) :
    interpC cfg st
      (Trans.Conn_readControl_body CtlR.ret (ctlEv Reader.Ev.ping) (ctlEv Reader.Ev.pong) CtlR.close rest fh
        (Trans.frameHeader_GetLengthCode fh))
      = Reader.readControl cfg st h rest := by
  have _ := hlen  -- not needed: of the header array only bytes 0, 1 and the key slice are read, and `hkey` speaks of that
  have hn8 : (Trans.frameHeader_GetLengthCode fh).toNat = Frame.getLengthCode h.b1 := by rw [GetLengthCode_eq, h1]
  have hop : (Trans.frameHeader_GetOpcode fh).toNat = Frame.getOpcode h.b0 := by rw [GetOpcode_eq, h0]
  have hmk : Trans.frameHeader_GetMask fh = Frame.getMask h.b1 := by rw [GetMask_eq, h1]
  have hn' : ¬ (Frame.getLengthCode h.b1 > Facts.thresholdV1) := by omega
  unfold Trans.Conn_readControl_body Reader.readControl
  simp only [hfin, Bool.not_true, Bool.false_eq_true, if_false, hn', ← hop, hmk, gt_iff_lt, UInt8.lt_iff_toNat_lt, UInt8.toNat_zero]
  rw [← hn8]
  generalize Trans.frameHeader_GetLengthCode fh = n
  by_cases hz : 0 < n.toNat
  · simp only [hz, decide_true, if_true, List.length_replicate, goReadN]
    by_cases hr : rest.length < n.toNat
    · simp [hr, interpC]
    · simp only [hr, if_false, true_and, goCopy_fresh rest hr]
      cases hm : Frame.getMask h.b1
      · simp only [Bool.false_eq_true, if_false, dispatch_eq]
      · simp only [if_true, List.drop_zero, (GetMaskKey_eq fh).trans (hkey hm), maskXOR_key _ _ (hk4 hm)]
        rw [goCopy_full _ _ (by simp)]
        simp only [dispatch_eq]
  · have hz' : n.toNat = 0 := by omega
    simp only [hz, decide_false, Bool.false_eq_true, if_false, dispatch_eq]
    simp [hz']

end TransEquiv
