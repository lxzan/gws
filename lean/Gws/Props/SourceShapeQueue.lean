import Gws.Generated.Facts
/-!
# Source-shape obligations of the task queue model (C15)

`TQ.step` takes the critical section of `getJob` as its atomic action.  That the queue state is touched
nowhere else is read off the Go source by `tools/factgen` on every run (`Gws/Generated/Facts.lean`);
`taskqueue_sections` asserts, by evaluation, that the regenerated facts are the ones the model was written
for.  When the source changes shape (a lock dropped, a fast path around `getJob`) it no longer checks, the
property's proof obligations are broken and the check searches for a failing schedule.
-/

namespace SourceShape

/-- C15: every access to the queue state is inside `getJob`, which is one `Lock / defer Unlock`
region with the modelled body; `Push` and `do` only call `getJob`; both connection construction
sites use `maxConcurrency: 1`; `Conn.Async` is `c.writeQueue.Push(f)` and `WriteAsync`/`WritevAsync` consist of one
call of `c.Async` with a function literal (no path around the queue). -/
theorem taskqueue_sections :
    Facts.getJobLocks = true ∧ Facts.getJobBodyAsModelled = true ∧ Facts.pushIsGetJobThenSpawn = true ∧
    Facts.doLoopsGetJob = true ∧ Facts.queueStateTouchedBy = ["workerQueue.getJob"] ∧
    Facts.writeQueueMaxConcurrency = [1, 1] ∧ Facts.asyncApisOnlySubmit = true := by decide

end SourceShape
