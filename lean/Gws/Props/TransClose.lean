import Gws.Generated.Trans
import Gws.Lemmas.Trans
import Gws.Lemmas.Close
/-!
# T3 — the Close handling of conn.go / writer.go, translated from the source on every run, equals the model

* `emitClose` up to the closed-flag CAS (status reported, reason, status answered) = `Close.emitClose`
  (the function the C06 reply table and the C16 close-reason clause are proved about);
* `WriteClose` + `writeClose` (status raised to 1000, reason appended, body cut to 125) = `Close.localCloseBody`;
* `closeViaWrite` = `Close.viaWriteSplit`;
* `StatusCode.Bytes`, `internal.CheckEncoding` = `Close.statusBytes`, `Utf8.checkEncoding`.
-/
-- simp arguments that today's spelling of the Go code leaves unused are there for its re-spellings (DESIGN 2.3)
set_option linter.unusedSimpArgs false

namespace TransEquiv

theorem CheckEncoding_eq (enabled : Bool) (opcode : UInt8) (p : Bytes) :
    Trans.internal_CheckEncoding enabled opcode p = Utf8.checkEncoding enabled opcode.toNat p := by
  unfold Trans.internal_CheckEncoding Utf8.checkEncoding goUtf8Valid
  simp only [u8_beq]
  cases enabled <;> simp

theorem StatusCode_Bytes_eq (c : UInt16) : Trans.StatusCode_Bytes c = Close.statusBytes c.toNat := by
  unfold Trans.StatusCode_Bytes Close.statusBytes
  have h0 : (c == (0 : UInt16)) = decide (c.toNat = 0) := by rw [u16_beq]; rfl
  rw [h0]
  by_cases h : c.toNat = 0
  · simp [h]
  · simp only [h, decide_false, Bool.false_eq_true, ↓reduceIte, List.cons.injEq, and_true]
    constructor
    · apply UInt8.toNat_inj.mp
      have := c.toNat_lt
      simp [UInt16.toNat_shiftRight]
      omega
    · apply UInt8.toNat_inj.mp
      have := c.toNat_lt
      simp [UInt16.toNat_shiftRight, UInt16.toNat_shiftLeft]
      omega

/-- the classification of a 16-bit status as `emitClose` spells it today: a fact about that spelling only
(`emitClose_body_eq` below neither uses it nor depends on the spelling) -/
theorem classify_u16 (wire : UInt16) :
    (if ((((wire == (1004 : UInt16)) || (wire == (1005 : UInt16))) || (wire == (1006 : UInt16))) || (wire == (1015 : UInt16))) then (1002 : UInt16)
     else if (((decide (wire < (1000 : UInt16))) || (decide (wire ≥ (5000 : UInt16)))) || (((decide (wire ≥ (1016 : UInt16))) && (decide (wire < (3000 : UInt16)))))) then (1002 : UInt16)
     else if (decide (wire < (1016 : UInt16))) then (1000 : UInt16) else wire)
      = UInt16.ofNat (Close.classify wire.toNat) := by
  have hw : UInt16.ofNat wire.toNat = wire := by simp
  -- the model's `classify` is the same cascade on the natural number: compare condition by condition
  simp only [Close.classify_eq, apply_ite UInt16.ofNat, hw, u16_beq, UInt16.lt_iff_toNat_lt, UInt16.le_iff_toNat_le, ge_iff_le,
    UInt16.reduceToNat, Bool.or_eq_true, Bool.and_eq_true, decide_eq_true_eq, List.mem_cons, List.not_mem_nil, or_false, or_assoc]
  rfl

/-- `emitClose` before the CAS = `Close.emitClose`: the reason left in the buffer, the status answered, the status reported -/
theorem emitClose_body_eq (checkUtf8 : Bool) (body : Bytes) :
    Trans.Conn_emitClose_body checkUtf8 body =
      .ok ((Close.emitClose checkUtf8 body).reason, UInt16.ofNat (Close.emitClose checkUtf8 body).response,
           UInt16.ofNat (Close.emitClose checkUtf8 body).realCode) := by
  unfold Trans.Conn_emitClose_body
  match body with
  | [] => simp [Close.emitClose]
  | [x] =>
    simp [Close.emitClose, goIdx, Facts.closeProtocolError]
  | a :: b :: reason =>
    have hlen0 : ((Int.ofNat (a :: b :: reason).length) == (0 : Int)) = false := by simp; omega
    have hlen1 : ((Int.ofNat (a :: b :: reason).length) == (1 : Int)) = false := by simp; omega
    have hk : Nat.min (a :: b :: reason).length ((List.replicate 2 (0 : UInt8)).length - ((0 : Int)).toNat) = 2 := by simp
    simp only [hlen0, hlen1, Bool.false_eq_true, ↓reduceIte, hk]
    have hb : goCopy (List.replicate 2 (0 : UInt8)) 0 ((a :: b :: reason).take 2) = [a, b] := by
      simp [goCopy]
    simp only [Int.toNat_zero, hb, List.drop_succ_cons, List.drop_zero]
    have hlt : Frame.be16 a b < 65536 := by
      have := a.toNat_lt; have := b.toNat_lt; simp [Frame.be16]; omega
    have hw : goU16BE [a, b] = UInt16.ofNat (Frame.be16 a b) := by simp [goU16BE, goIdx, Frame.be16]
    rw [hw, CheckEncoding_eq]
    simp only [Close.emitClose, Close.classify_spec, Spec.closeCodeForbidden, Facts.opClose, Facts.closeUnsupportedData]
    have h8 : (8 : UInt8).toNat = 8 := rfl
    rw [h8]
    -- From here on the statement is about one 16-bit number (the bookkeeping above would only slow `omega` down): every
    -- comparison becomes one of naturals, every `if` of either side is split and each leaf is arithmetic, however the
    -- classification is spelled.
    clear hlen0 hlen1 hk hb hw h8
    generalize Frame.be16 a b = n at *
    generalize hwd : UInt16.ofNat n = w
    have hwn : w.toNat = n := by rw [← hwd]; simp; omega
    rcases Bool.eq_false_or_eq_true (Utf8.checkEncoding checkUtf8 8 reason) with hce | hce <;>
      simp only [hce, u16_beq, UInt16.lt_iff_toNat_lt, UInt16.le_iff_toNat_le, ge_iff_le, hwn, UInt16.reduceToNat,
        Bool.not_true, Bool.not_false, Bool.false_eq_true, ↓reduceIte,
        Bool.or_eq_true, Bool.and_eq_true, decide_eq_true_eq, Bool.not_eq_true', Bool.or_eq_false_iff, decide_eq_false_iff_not,
        apply_ite UInt16.ofNat, hwd] <;>
      repeat' split
    all_goals first | rfl | (exfalso; omega)

theorem writeClose_cut_eq (body : Bytes) : Trans.Conn_writeClose_cut body = .ok (Close.cutBody body) := by
  unfold Trans.Conn_writeClose_cut Close.cutBody
  have : ((125 : Int) < (body.length : Int)) ↔ 125 < body.length := by omega
  simp [this, Facts.closeBodyCut]

/-- a locally requested close: `WriteClose` builds status ++ reason with the status raised to 1000, `writeClose` cuts the
body to the control-frame limit: together the model's `Close.localCloseBody` -/
theorem local_close_body_eq (code : UInt16) (reason : Bytes) :
    (Trans.Conn_WriteClose_body code reason >>= fun r => Trans.Conn_writeClose_cut r.2)
      = .ok (Close.localCloseBody code.toNat reason) := by
  unfold Trans.Conn_WriteClose_body Close.localCloseBody
  simp only [bind, Except.bind, writeClose_cut_eq, List.nil_append, StatusCode_Bytes_eq, UInt16.lt_iff_toNat_lt,
    Facts.localCloseMinCode, Facts.localCloseRaisedTo, UInt16.reduceToNat, apply_ite UInt16.toNat, decide_eq_true_eq]
  congr

theorem closeViaWrite_split_eq (body : Bytes) :
    Trans.Conn_closeViaWrite_split body =
      .ok (UInt16.ofNat (Close.viaWriteSplit body).1, (Close.viaWriteSplit body).2) := by
  unfold Trans.Conn_closeViaWrite_split Close.viaWriteSplit Trans.StatusCode_Uint16
  match body with
  | [] => simp [Facts.closeNormalClosure]
  | [x] => simp [Facts.closeNormalClosure]
  | a :: b :: r =>
    have : (2 : Int) ≤ ↑r.length + 1 + 1 := by omega
    simp [this, goU16BE, goIdx, Frame.be16]

/-- a read-path error of the model as the Go error value `readMessage` returns -/
def goErrOfReadErr : Close.ReadErr → Option GoErr
  | .status c => some (.status (UInt16.ofNat c))
  | .coded c => some (.coded (UInt16.ofNat c))
  | .other => some .io

/-- the status `emitError(true, err)` sends for an error of the read path = `Close.ReadErr.sendCode` (a status code is sent
as it is, an `*internal.Error` with its code, anything else — I/O — with 1000); a write-side error sends 1001 -/
theorem emitError_status_eq (e : Close.ReadErr) :
    Trans.Conn_emitError_status (reading := true) (err := goErrOfReadErr e) = .ok (UInt16.ofNat e.sendCode) := by
  cases e <;> simp [Trans.Conn_emitError_status, goErrOfReadErr, Close.ReadErr.sendCode, Facts.closeNormalClosure]

theorem emitError_status_write (err : Option GoErr) :
    Trans.Conn_emitError_status (reading := false) (err := err) = .ok (UInt16.ofNat Facts.closeGoingAway) := by
  simp [Trans.Conn_emitError_status, Facts.closeGoingAway]

deriving instance DecidableEq for Except

example : Trans.Conn_emitClose_body true [0x03, 0xf6] = .ok ([], 1000, 1014) := by decide +kernel
example : Trans.Conn_emitClose_body true [0x03, 0xed, 0x41] = .ok ([0x41], 1002, 1005) := by decide +kernel
example : Trans.Conn_emitClose_body true [0x03, 0xe8, 0xff] = .ok ([0xff], 1007, 1000) := by decide +kernel
example : Trans.Conn_emitClose_body false [0x7] = .ok ([], 1002, 7) := by decide +kernel
example : (Trans.Conn_WriteClose_body 999 [0x41] >>= fun r => Trans.Conn_writeClose_cut r.2) = .ok [0x03, 0xe8, 0x41] := by decide +kernel

end TransEquiv
