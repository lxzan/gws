import Gws.Lemmas.Conc.ConnProps
/-!
# C06 (concurrent part) — at most one Close frame, nothing after it, writes after close are rejected

Statement: under every interleaving of write calls (`WriteMessage`/`Writev`/`WriteFile`/broadcast),
local close calls, error paths and the read loop, and for every position of transport faults,
at most one Close frame reaches the transport; it is written by the goroutine that won the
`CompareAndSwap(&closed, 0, 1)`; it is the last frame on the wire; and a write call that starts once
the connection is closed returns `ErrConnClosed` without touching the transport.

The theorems are about every reachable state (`Reachable s`, or `run {} xs = some s` where the statement
mentions the schedule; `closed_is_monotone` is about any single step): every finite sequence of
`spawn`/`act` actions of the transition system `Conc.step` (Gws/Model/Conc/Conn.lean), i.e. any number of
actors of any kind, spawned at any time, any schedule, any fault pattern.  The invariants are in
Gws/Lemmas/Conc/ConnInv.lean (`CInv`), ConnKinds.lean (`KInv`, `WInv`).  The position of the closed
test of the broadcast path is the generated fact `Facts.bcClosedCheckUnderLock` (= `true` for the
current source); the proofs unfold it, so they break if the test moves out of the lock region.

Trusted: atomicity of a `c.mu` region, of the CAS, and of one transport `Write` (see the model file).
-/

namespace Conc

/-- **At most one Close frame** is ever handed to the transport. -/
theorem at_most_one_close_frame {s : State} (h : Reachable s) :
    (s.wire.filter Frame.isClose).length ≤ 1 :=
  h.cinv.at_most_one_close

/-- **The Close frame is written by the CAS winner**: a Close frame owned by actor `o` is on the wire
only if `o` won `CompareAndSwap(&closed, 0, 1)`. -/
theorem close_frame_by_winner {s : State} (h : Reachable s) {o : Nat} (hf : Frame.close o ∈ s.wire) :
    s.winner = some o :=
  (h.cinv.close_owner _ hf rfl).1

/-- **Nothing follows the Close frame**: whatever the interleaving, a Close frame on the wire is the
last frame the transport accepted (no data frame of a concurrent writer, file writer or broadcast
slips in behind it). -/
theorem nothing_after_close_frame {s : State} (h : Reachable s) {pre post : List Frame} {f : Frame}
    (hw : s.wire = pre ++ f :: post) (hf : f.isClose = true) : post = [] :=
  h.cinv.nothing_after_close hw hf

/-- A Close frame on the wire implies that the `closed` flag is set. -/
theorem close_frame_implies_closed {s : State} (h : Reachable s) {o : Nat} (hf : Frame.close o ∈ s.wire) :
    s.closed = true :=
  h.cinv.close_closed hf

/-- The `closed` flag is never reset: it is monotone along every action. -/
theorem closed_is_monotone {s s' : State} {x : Action} (h : step s x = some s') (hc : s.closed = true) :
    s'.closed = true :=
  step_closed_mono h hc

/-- `closed` is set iff somebody won the CAS, and then the cause is stored (non-nil error for `OnClose`). -/
theorem closed_iff_winner {s : State} (h : Reachable s) :
    (s.closed = true ↔ s.winner.isSome = true) ∧ s.causeStored = s.closed :=
  ⟨by rw [h.cinv.closed_winner], h.cinv.cause⟩

/-- **Mutual exclusion of `c.mu`**: at most one actor is inside a critical section. -/
theorem lock_mutual_exclusion {s : State} (h : Reachable s) {a b : Nat}
    (ha : (s.pc a).holdsLock = true) (hb : (s.pc b).holdsLock = true) : a = b :=
  h.cinv.mutex a b ha hb

/-- **Writes after close are rejected.**  If a write call (`k` = `write r`, `file n` or `bcast`, i.e.
`k.isWriter`) is started by a fresh actor `a` in a reachable state whose `closed` flag is set, then
after every continuation `xs` (any further actors, interleaving and faults): no frame owned by `a`
is on the wire, in particular no data frame of `a`, and if the call has returned it returned
`ErrConnClosed`. -/
theorem writes_after_close_rejected {s s₁ s₂ : State} {a : Nat} {k : Kind} {xs : List Action}
    (h : Reachable s) (hc : s.closed = true) (hk : k.isWriter = true)
    (hs : step s (.spawn a k) = some s₁) (hrun : run s₁ xs = some s₂) :
    (∀ f ∈ s₂.wire, f.owner ≠ a) ∧ s₂.wire.filter (isDataOf a) = [] ∧
      ∀ r, s₂.pc a = .done r → r = .closed :=
  (lateWriter_run (lateWriter_spawn h.cinv hc hk hs) hrun).result

/-- **A local close wins or reports closed.**  A finished `WriteClose` call (`closer` actor at
`done r`) returned `nil` or the I/O error of its own Close-frame write iff it is the CAS winner, and
`ErrConnClosed` otherwise. -/
theorem local_close_wins_or_closed {xs : List Action} {s : State} (h : run {} xs = some s) {a : Nat}
    (hk : Action.spawn a .closer ∈ xs) {r : Ret} (hd : s.pc a = .done r) :
    ((r = .ok ∨ r = .ioErr) ↔ s.winner = some a) ∧ (s.winner ≠ some a → r = .closed) := by
  have := (inv_run h).closers a (kindMap_of_mem h a _ hk)
  rw [hd] at this
  simp only [CloserOK] at this
  rcases this with ⟨rfl, hw⟩ | ⟨hr, hw⟩
  · exact ⟨⟨fun h => by simp at h, fun h => (hw h).elim⟩, fun _ => rfl⟩
  · exact ⟨⟨fun _ => hw, fun _ => hr⟩, fun h => (h hw).elim⟩

/-- a local close writes its Close frame and closes the transport -/
example : (run {} [.spawn 1 .closer, .act 1 false, .act 1 false, .act 1 false, .act 1 false]).map
    (fun s => (s.wire, s.closed, s.tclosed, s.pc 1)) = some ([.close 1], true, true, .done .ok) := by decide

/-- a writer that passed its closed test before the CAS writes first; the Close frame follows -/
example : (run {} [.spawn 1 (.write false), .spawn 2 .closer, .act 1 false, .act 2 false, .act 1 false,
    .act 2 false, .act 2 false]).map (·.wire) = some [.data 1 0 true, .close 2] := by decide

/-- a write started after the close returns `ErrConnClosed` (after running its own lost close sequence) -/
example : (run {} [.spawn 1 .closer, .act 1 false, .spawn 2 (.file 3), .act 1 false, .act 1 false, .act 2 false,
    .act 2 false, .act 2 false]).map (fun s => (s.wire, s.pc 2)) = some ([.close 1], .done .closed) := by decide

/-- two local closes: one wins, the other reports `ErrConnClosed` -/
example : (run {} [.spawn 1 .closer, .spawn 2 .closer, .act 2 false, .act 1 false, .act 2 false, .act 2 false,
    .act 2 false]).map (fun s => (s.winner, s.pc 1, s.pc 2)) = some (some 2, .done .closed, .done .ok) := by decide

end Conc
