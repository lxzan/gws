import Gws.Lemmas.ReaderLoop
import Gws.Props.C16
/-!
# C16 (read side) — UTF-8 is checked on whole text messages, after reassembly and inflation

Statement: with the check enabled, a text message is delivered only if its complete payload (all
fragments joined, inflated if compressed) is well-formed UTF-8 (RFC 3629); otherwise the connection
is failed with status 1007 and the message is not delivered.  Binary messages are never checked;
with the check disabled nothing is ever rejected with 1007.
-/

namespace Reader

/-- **C16, read gate on the loop.** With `checkUtf8` on, every text message the loop delivers — from
any state, on any input, however fragmented or compressed — is valid UTF-8. -/
theorem read_gate (cfg : Cfg) (codec : Codec) (st : State) (b : Bytes) (hu : cfg.checkUtf8 = true) :
    ∀ p, Ev.msg 1 p ∈ (readLoop cfg codec st b).evs → Spec.Utf8.valid p = true := fun p hm => by
  simpa [Utf8.checkEncoding, hu] using ((readLoop_sound cfg codec st b).1 _ hm).2

theorem text_gate (p : Bytes) : Utf8.checkEncoding true 1 p = Spec.Utf8.valid p :=
  Utf8.write_gate_bytes 1 p (.inl rfl)

/-- **C16, the gate decides exactly validity** (uncompressed complete text message): delivered iff
valid; if not valid, the result is the error with Close status 1007. -/
theorem read_gate_text (cfg : Cfg) (codec : Codec) (st : State) (data : Bytes) (hu : cfg.checkUtf8 = true) :
    (Spec.Utf8.valid data = true → emitMessage cfg codec st 1 data false = .inl (st, some (.msg 1 data))) ∧
    (Spec.Utf8.valid data = false → emitMessage cfg codec st 1 data false = .inr (.err (.coded 1007))) := by
  rw [emitMessage_uncompressed, hu, text_gate]
  constructor <;> intro hv <;> rw [hv] <;> rfl

/-- **C16, compressed text.** For a compressed text message the gate is applied to the inflated bytes. -/
theorem read_gate_text_compressed (cfg : Cfg) (codec : Codec) (st : State) (data out : Bytes)
    (hu : cfg.checkUtf8 = true) (hd : codec.decompress cfg.readMax st.dps.dict data = .ok out) :
    (Spec.Utf8.valid out = true →
      emitMessage cfg codec st 1 data true = .inl ({ st with dps := st.dps.write out }, some (.msg 1 out))) ∧
    (Spec.Utf8.valid out = false → emitMessage cfg codec st 1 data true = .inr (.err (.coded 1007))) := by
  rw [emitMessage_inflated _ _ _ _ _ _ hd, hu, text_gate]
  constructor <;> intro hv <;> rw [hv] <;> rfl

/-- **C16, binary is never checked**: whatever the bytes and the setting, an uncompressed binary
message passes the gate; a compressed one passes once it inflates. -/
theorem binary_never_checked (cfg : Cfg) (codec : Codec) (st : State) (data : Bytes) :
    emitMessage cfg codec st 2 data false = .inl (st, some (.msg 2 data)) ∧
    ∀ out, codec.decompress cfg.readMax st.dps.dict data = .ok out →
      emitMessage cfg codec st 2 data true = .inl ({ st with dps := st.dps.write out }, some (.msg 2 out)) := by
  have hb : ∀ p, Utf8.checkEncoding cfg.checkUtf8 2 p = true :=
    (Utf8.binary_never_checked cfg.checkUtf8 2 [] (by decide) (by decide)).2
  refine ⟨?_, fun out hd => ?_⟩
  · rw [emitMessage_uncompressed, hb]; rfl
  · rw [emitMessage_inflated _ _ _ _ _ _ hd, hb]; rfl

/-- **C16, check off ⇒ never 1007.** -/
theorem check_off_never_rejects (cfg : Cfg) (codec : Codec) (st : State) (opcode : Nat) (data : Bytes)
    (compressed : Bool) (hu : cfg.checkUtf8 = false) :
    emitMessage cfg codec st opcode data compressed ≠ .inr (.err (.coded 1007)) := by
  unfold emitMessage
  have h11 : Facts.closeInternalErr = 1011 := rfl
  simp only [Utf8.checkEncoding, hu, Bool.false_and, Bool.false_eq_true, if_false, Bool.not_true, h11]
  split
  · split <;> simp
  · simp

/-- `C3 A9` ("é") split over two fragments is delivered: the check runs on the joined message -/
example (codec : Codec) :
    let cfg : Cfg := { isServer := false, pdEnabled := false, readMax := 16, checkUtf8 := true }
    (readLoop cfg codec {} [0x01, 0x01, 0xC3, 0x80, 0x01, 0xA9]).evs = [.msg 1 [0xC3, 0xA9]] := by
  intro cfg
  have s1 : step cfg codec {} [0x01, 0x01, 0xC3, 0x80, 0x01, 0xA9] =
      .ok { cont := { initialized := true, compressed := false, opcode := 1, buffer := [0xC3] } } [] [0x80, 0x01, 0xA9] := by
    reader_eval [cfg]
  have s2 : step cfg codec { cont := { initialized := true, compressed := false, opcode := 1, buffer := [0xC3] } }
      [0x80, 0x01, 0xA9] = .ok {} [.msg 1 [0xC3, 0xA9]] [] := by
    reader_eval [cfg]
  have s3 : step cfg codec {} [] = .stop [] (.err .other) := by
    reader_eval [cfg]
  rw [readLoop_ok s1, readLoop_ok s2, readLoop_stop s3]
  rfl

/-- an overlong encoding (`C0 80`) as text: 1007, nothing delivered; the same bytes as binary pass -/
example (codec : Codec) :
    let cfg : Cfg := { isServer := false, pdEnabled := false, readMax := 16, checkUtf8 := true }
    step cfg codec {} [0x81, 0x02, 0xC0, 0x80] = .stop [] (.err (.coded 1007)) ∧
    step cfg codec {} [0x82, 0x02, 0xC0, 0x80] = .ok {} [.msg 2 [0xC0, 0x80]] [] := by
  intro cfg
  constructor
  · reader_eval [cfg]
  · reader_eval [cfg]

end Reader
