import Gws.Generated.Facts
/-!
# Source-shape obligations of the two map models (C19)

`CMap.step` and `SMap.step` take one mutex critical section as an atomic action.  Where the locks are taken
is read off the Go source by `tools/factgen` on every run (`Gws/Generated/Facts.lean`); the theorems
assert, by evaluation, that the regenerated facts are the ones the models were written for.  When the
source changes shape (a lock dropped, the shard table assigned again) they no longer check, the property's
proof obligations are broken and the check searches for a failing schedule.
-/

namespace SourceShape

/-- C19: every method of the default session map is one locked section; every shard access of
`ConcurrentMap` is between that shard's `Lock` and `Unlock`. -/
theorem map_sections : Facts.smapLocks = true ∧ Facts.cmapShardLocks = true := by decide

/-- C19: the shard table of `ConcurrentMap` is assigned by the constructor only, so the lock an
operation resolved for its key is still the lock of that key's shard when it acquires it. -/
theorem shard_table_fixed : Facts.cmapShardTableFixed = true := by decide

end SourceShape
