import Gws.Lemmas.Deque.Refine
/-!
# C20 — the arena-backed deque behaves like a plain sequence

Statement (properties.jsonl): the internal arena-backed deque behaves exactly like a plain sequence
under every sequence of push/pop at both ends, insert before/after a live element, move to
front/back, update, remove by handle, reset and clone.  Len and iteration order always match the
model, handles of live elements stay valid across growth and slot reuse, and a clone is independent
of the original.

Vocabulary (model in `Gws/Model/Deque.lean`, the rest in `Gws/Lemmas/Deque/*.lean`: `WF` in `Ops`, `abs` in `Basic`, the
operation sequences and their list reference in `Refine`):
`Deque.WF d as` is the invariant, with the ghost list `as` of live addresses in sequence order;
`Deque.abs d as` is the sequence of values behind those addresses.  A *handle* is the address of a
live element (what `Element.Addr()` returns); an operation returns `none` when Go would panic.

Each operation theorem is stated on an arbitrary well-formed state, so together with `wf_zero` /
`wf_new` they cover every reachable state and every operation sequence; the theorems on a live handle
`a` take the sequence in the split form `l ++ a :: r` (every `a ∈ as` has such a split).

Nothing is partial: every operation of the API has its theorem.  For an operation that changes the deque it gives: no
panic, `WF` for the new ghost list, `abs` of the result as the plain-list operation, freshness of a returned handle, and
that the values behind all other live handles are unchanged (a handle stays valid across growth of the slot array and
across slot reuse: with `WF.live_handle` for the new state, `Get` still returns the element with that address and the
same value).  `ops_refine` puts them together over all histories.  `Reset` is covered on every well-formed state, the
zero value that was never pushed to (or a clone of one) included, whose slot array does not exist yet: `autoReset` guards
its slice expression `c.elements[:1]` by `if len(c.elements) > 0` (replay line `deque zero reset`).

Not expressible on this value model, and left to the correspondence suite `deque` (which compares
slot addresses too): that a clone shares no memory with the original (`clone_spec`), that no pointer
is kept across the `append` in `getElement`.  Not modelled: a `Range` callback that modifies the deque
while iterating, `Pointer` (uint32) overflow at 2^32 slots, slice capacities (unobservable).
Operations on stale handles are outside the property; the model keeps what the code does with them
(silent corruption, or a panic outcome when out of range) but no theorem speaks about it.
-/

namespace Deque

variable {d : Deque} {as l r : List Nat} {a m : Nat}

/-- The zero value (as embedded in `workerQueue`) is well formed and empty. -/
theorem wf_zero : WF zero [] := by
  refine ⟨rfl, by simp [zero], by simp [zero], by simp [zero], rfl, rfl, rfl, by simp, by simp [zero]⟩

/-- `New(capacity)` with a non-negative capacity is well formed and empty, and its slot array is
allocated. -/
theorem wf_new (c : Int) (hc : 0 ≤ c) : ∃ d, Deque.new c = some d ∧ WF d [] ∧ d.elements ≠ [] := by
  refine ⟨{ elements := [{}] }, by simp [Deque.new, Int.not_lt.mpr hc], ?_, by simp⟩
  refine ⟨rfl, by simp, by simp, by simp, rfl, rfl, rfl, by simp, by simp⟩

/-- `New` with a negative capacity panics (`make` with `cap < len`). -/
theorem new_negative_panics (c : Int) (hc : c < 0) : Deque.new c = none := by
  simp [Deque.new, hc]

/-- Live addresses and free stack together are *exactly* the slots `1 .. len(elements)-1`: the
invariant's `nodup`/`range`/`cover` clauses leave no slot unaccounted for. -/
theorem WF.covers (h : WF d as) (i : Nat) (h0 : 0 < i) (hi : i < d.elements.length) :
    i ∈ as ++ d.stack :=
  slots_cover h.nodup h.range (by simpa using h.cover) i h0 hi

/-- A live handle is non-nil, `Get` returns the element stored under it without a bounds panic, and
that element carries the handle as its address. -/
theorem WF.live_handle (h : WF d as) (ha : a ∈ as) : a ≠ 0 ∧ d.get a = some a ∧ (d.load a).addr = a := by
  have hr := h.range a (by simp [ha])
  exact ⟨by omega, get_of_lt hr.2, h.inv.addr_eq ha⟩

/-- The nil handle: `Get` returns nil, and every handle-taking operation is a no-op returning nil. -/
theorem nil_handle (d : Deque) (v : Nat) :
    d.get 0 = some 0 ∧ d.insertAfter v 0 = some (d, 0) ∧ d.insertBefore v 0 = some (d, 0) ∧
    d.moveToFront 0 = some d ∧ d.moveToBack 0 = some d ∧ d.update 0 v = some d ∧ d.remove 0 = some d := by
  simp [get, insertAfter, insertBefore, moveToFront, moveToBack, update, remove]

/-- `Len` is the length of the sequence. -/
theorem len_spec (h : WF d as) : d.len = (abs d as).length := by
  simp [len, h.len_eq]

/-- `Front`/`Back` return the first/last live handle (nil when empty), whose values are the first/last
element of the sequence. -/
theorem front_back_spec (h : WF d as) :
    d.front = some (as.head?.getD 0) ∧ d.back = some (as.getLast?.getD 0) ∧
    (abs d as).head? = as.head?.map (fun a => (d.load a).value) ∧
    (abs d as).getLast? = as.getLast?.map (fun a => (d.load a).value) := by
  refine ⟨?_, ?_, by simp [abs], by simp [abs]⟩
  · rw [front_core h.inv, firstOr_eq_head?]
  · rw [back_core h.inv, lastOr_eq_getLast?]

/-- `Range` visits the elements behind `as` in order, threading the callback's state, and stops after
the first element on which the callback answers `false` (`foldUntil`). -/
theorem range_spec {σ : Type} (h : WF d as) (f : σ → Elem → σ × Bool) (s : σ) :
    d.range f s = some (foldUntil f s (as.map d.load)) :=
  range_core h.inv f s

/-- In particular a callback that always continues and collects the values sees exactly `abs`. -/
theorem range_all_spec (h : WF d as) :
    d.range (fun (acc : List Nat) e => (acc ++ [e.value], true)) [] = some (abs d as) :=
  range_all_core h.inv

/-- `PushBack v`: succeeds, returns a fresh non-nil handle `a`, the sequence becomes `as ++ [a]` with
values `abs ++ [v]`, and every previously live handle still denotes the same value (whether the slot
array grew or a recycled slot was used). -/
theorem pushBack_spec (h : WF d as) (v : Nat) :
    ∃ d' a, d.pushBack v = some (d', a) ∧ a ∉ as ∧ WF d' (as ++ [a]) ∧
      abs d' (as ++ [a]) = abs d as ++ [v] ∧ ∀ b ∈ as, (d'.load b).value = (d.load b).value := by
  obtain ⟨d', a, hp, hc⟩ := pushBack_core h v
  exact ⟨d', a, hp, by simpa using hc.spec⟩

/-- `PushFront v`: as `pushBack_spec`, at the other end. -/
theorem pushFront_spec (h : WF d as) (v : Nat) :
    ∃ d' a, d.pushFront v = some (d', a) ∧ a ∉ as ∧ WF d' (a :: as) ∧
      abs d' (a :: as) = v :: abs d as ∧ ∀ b ∈ as, (d'.load b).value = (d.load b).value := by
  obtain ⟨d', a, hp, hc⟩ := pushFront_core h v
  exact ⟨d', a, hp, hc.spec⟩

/-- `PopFront` on an empty deque returns the zero value and changes nothing. -/
theorem popFront_empty (h : WF d []) : d.popFront = some (d, 0) :=
  popFront_nil h

/-- `PopFront` on a non-empty deque returns the first value and removes the first element; the other
handles keep their values. -/
theorem popFront_spec (h : WF d (a :: r)) :
    ∃ d', d.popFront = some (d', (d.load a).value) ∧ WF d' r ∧ abs d' r = (abs d (a :: r)).tail ∧
      ∀ b ∈ r, (d'.load b).value = (d.load b).value := by
  obtain ⟨d', hp, hw, hv⟩ := popFront_core h
  exact ⟨d', by simpa using hp, hw, by simpa using abs_congr hv, hv⟩

/-- `PopBack` on an empty deque returns the zero value and changes nothing. -/
theorem popBack_empty (h : WF d []) : d.popBack = some (d, 0) :=
  popBack_nil h

/-- `PopBack` on a non-empty deque returns the last value and removes the last element. -/
theorem popBack_spec (h : WF d (l ++ [a])) :
    ∃ d', d.popBack = some (d', (d.load a).value) ∧ WF d' l ∧ abs d' l = (abs d (l ++ [a])).dropLast ∧
      ∀ b ∈ l, (d'.load b).value = (d.load b).value := by
  obtain ⟨d', hp, hw, hv⟩ := popBack_core h
  simp only [List.dropLast_concat] at hw hv
  exact ⟨d', by simpa using hp, hw, by simpa using abs_congr hv, hv⟩

/-- `Remove a` for a live handle: the element disappears from the sequence, the others keep their
order and values. -/
theorem remove_spec (h : WF d (l ++ a :: r)) :
    ∃ d', d.remove a = some d' ∧ WF d' (l ++ r) ∧ abs d' (l ++ r) = abs d l ++ abs d r ∧
      ∀ b ∈ l ++ r, (d'.load b).value = (d.load b).value := by
  obtain ⟨d', hu, hw, hv⟩ := remove_core h
  exact ⟨d', hu, hw, by rw [abs_congr hv, abs_append], hv⟩

/-- `InsertAfter v m` for a live handle `m`: a fresh handle `a` is linked right after `m`. -/
theorem insertAfter_spec (h : WF d (l ++ m :: r)) (v : Nat) :
    ∃ d' a, d.insertAfter v m = some (d', a) ∧ a ∉ l ++ m :: r ∧ WF d' (l ++ m :: a :: r) ∧
      abs d' (l ++ m :: a :: r) = abs d l ++ (d.load m).value :: v :: abs d r ∧
      ∀ b ∈ l ++ m :: r, (d'.load b).value = (d.load b).value := by
  obtain ⟨d', a, hp, hc⟩ := insertAfter_core h v
  exact ⟨d', a, hp, by simpa using hc.spec⟩

/-- `InsertBefore v m` for a live handle `m`: a fresh handle `a` is linked right before `m`. -/
theorem insertBefore_spec (h : WF d (l ++ m :: r)) (v : Nat) :
    ∃ d' a, d.insertBefore v m = some (d', a) ∧ a ∉ l ++ m :: r ∧ WF d' (l ++ a :: m :: r) ∧
      abs d' (l ++ a :: m :: r) = abs d l ++ v :: (d.load m).value :: abs d r ∧
      ∀ b ∈ l ++ m :: r, (d'.load b).value = (d.load b).value := by
  obtain ⟨d', a, hp, hc⟩ := insertBefore_core h v
  exact ⟨d', a, hp, hc.spec⟩

/-- `MoveToFront a` for a live handle: `a` becomes the first element, nothing else changes; no value
behind any handle changes. -/
theorem moveToFront_spec (h : WF d (l ++ a :: r)) :
    ∃ d', d.moveToFront a = some d' ∧ WF d' (a :: (l ++ r)) ∧
      abs d' (a :: (l ++ r)) = (d.load a).value :: (abs d l ++ abs d r) ∧
      ∀ b, (d'.load b).value = (d.load b).value := by
  obtain ⟨d', hp, hw, hv⟩ := moveToFront_core h
  exact ⟨d', hp, hw, by rw [abs_congr fun b _ => hv b]; simp, hv⟩

/-- `MoveToBack a` for a live handle: `a` becomes the last element, nothing else changes. -/
theorem moveToBack_spec (h : WF d (l ++ a :: r)) :
    ∃ d', d.moveToBack a = some d' ∧ WF d' (l ++ r ++ [a]) ∧
      abs d' (l ++ r ++ [a]) = abs d l ++ abs d r ++ [(d.load a).value] ∧
      ∀ b, (d'.load b).value = (d.load b).value := by
  obtain ⟨d', hp, hw, hv⟩ := moveToBack_core h
  exact ⟨d', hp, hw, by rw [abs_congr fun b _ => hv b]; simp, hv⟩

/-- `Update a v` for a live handle: the value behind `a` becomes `v`, nothing else changes. -/
theorem update_spec (h : WF d (l ++ a :: r)) (v : Nat) :
    ∃ d', d.update a v = some d' ∧ WF d' (l ++ a :: r) ∧
      abs d' (l ++ a :: r) = abs d l ++ v :: abs d r ∧
      ∀ b ∈ l ++ r, (d'.load b).value = (d.load b).value := by
  obtain ⟨hu, hc⟩ := update_core h v
  exact ⟨_, hu, hc.spec.2⟩

/-- `Reset` on *every* well-formed deque — including a zero value that was never pushed to, whose slot
array does not exist yet — cannot panic (`reset` is a total function of the model) and leaves a
well-formed empty deque; the slot array is cut back to the sentinel slot, or stays unallocated. -/
theorem reset_spec (h : WF d as) :
    WF d.reset [] ∧ d.reset.elements.length = min 1 d.elements.length :=
  ⟨autoReset_wf h.tmpl, (autoReset_spec d).2.2.2.2.2⟩

/-- A non-empty deque has its slot array allocated (so has every deque from `New`, `wf_new`); only a
zero value that was never pushed to, and clones of it, have none. -/
theorem allocated_of_nonempty (h : WF d as) (hne : as ≠ []) : d.elements ≠ [] := by
  cases as with
  | nil => exact absurd rfl hne
  | cons x xs => exact h.inv.elements_ne_nil (a := x) (by simp)

/-- `Clone` is a value copy: the clone is the same abstract state (same handles, same values).  In
this functional model that is all there is to say — operations on the clone cannot change `abs` of
the original because states are values; that the Go copy really shares no memory with the original is
checked by the correspondence suite (`clone` then diverging operations on both instances), not here. -/
theorem clone_spec (d : Deque) : d.clone = d := clone_eq d

theorem clone_wf (h : WF d as) : WF d.clone as ∧ abs d.clone as = abs d as := by
  rw [clone_spec]; exact ⟨h, rfl⟩

/-- **C20, all histories.** `Op` are the operations of the API over abstract element ids (an id is
the ordinal of the push/insert that created the element), plus `clone` (append a copy of the current
instance as a new instance) and `use k` (switch the current instance).  `SState.run` executes them on
plain lists of `(id, value)` — one list per instance — and rejects a sequence (`none`) only if it
names an id that is not live in the current instance or switches to an instance that does not exist.
`MState.run` executes them on the model, one deque and one id→handle map per instance.

For every operation sequence (no bound on its length) that the reference accepts, started from any
well-formed empty deque: the model never panics and after *every* operation the observations — the
operation's own result (the value behind the returned element, the popped value, the values `Range`
recorded before it was told to stop), `Len`, the full iteration order of values, and the values of
`Front` and `Back` — of the instance operated on are equal to those of the plain list.  In
particular what happens to a clone never shows in the original and vice versa. -/
theorem ops_refine (d : Deque) (h : WF d []) (ops : List Op) (obs : List Obs)
    (hs : SState.init.run ops = some obs) : (MState.init d).run ops = some obs :=
  run_refines (init_related h) ops obs hs

/-- All histories of a deque used as a zero value, never `New`ed: how `workerQueue` holds its queue of jobs
(`q internal.Deque[asyncJob]`). -/
theorem ops_refine_zero (ops : List Op) (obs : List Obs) (hs : SState.init.run ops = some obs) :
    (MState.init zero).run ops = some obs :=
  ops_refine zero wf_zero ops obs hs

/-- All histories of a deque from `New(capacity)`, whatever the (non-negative) capacity. -/
theorem ops_refine_new (c : Int) (hc : 0 ≤ c) :
    ∃ d, Deque.new c = some d ∧ ∀ (ops : List Op) (obs : List Obs),
      SState.init.run ops = some obs → (MState.init d).run ops = some obs := by
  obtain ⟨d, hn, hw, _⟩ := wf_new c hc
  exact ⟨d, hn, fun ops obs hs => ops_refine d hw ops obs hs⟩

-- the hypotheses of the handle theorems are satisfiable: well-formed states with live handles exist
example : ∃ d a b, WF d [a, b] := by
  obtain ⟨d1, a, _, _, h1, _⟩ := pushBack_spec wf_zero 5
  obtain ⟨d2, b, _, _, h2, _⟩ := pushBack_spec h1 6
  exact ⟨d2, a, b, h2⟩

-- growth, then slot reuse: after removing handle 1 the next push gets address 1 again, and the
-- element behind handle 2 is untouched
example : (do
    let (d, a) ← zero.pushBack 10
    let (d, b) ← d.pushBack 20
    let d ← d.remove a
    let (d, c) ← d.pushBack 30
    pure ([a, b, c, d.elements.length, (d.load b).value, d.head, d.tail], d.stack) :
      Option (List Nat × List Nat))
    = some ([1, 2, 1, 3, 20, 2, 1], []) := by decide

-- auto-reset when the deque becomes empty truncates the slot array and forgets the free stack
example : (do
    let (d, a) ← zero.pushBack 10
    let (d, _) ← d.pushBack 20
    let d ← d.remove a
    let (d, _) ← d.popFront
    pure (d.stack, d.elements.length, d.length) : Option (List Nat × Nat × Int)) = some ([], 1, 0) := by
  decide

-- Reset on the never-used zero value leaves it as it is (no slot array, no panic); New(0) keeps its slot
example : zero.reset = zero := by decide
example : (Deque.new 0).map reset = some { elements := [{}] } := by decide

-- the reference accepts (so `ops_refine` speaks about) a sequence that uses every operation,
-- and rejects a dead id
example : (SState.init.run
    [.pushBack 1, .pushFront 2, .insertAfter 3 0, .insertBefore 4 1, .moveToFront 0, .moveToBack 1,
     .update 2 9, .clone, .use 1, .remove 0, .popFront, .range 1, .use 0, .popBack, .reset]).isSome := by
  decide
example : SState.init.run [.pushBack 1, .popFront, .remove 0] = none := by decide
-- reset as the very first operation on the zero value is accepted, and on a clone of it
example : ((MState.init zero).run [.reset, .clone, .use 1, .reset, .pushBack 7]).map (·.map (·.seq)) =
    some [[], [], [], [], [7]] := by decide

-- and on that sequence the model's observations are not trivial: after `use 0` the original still
-- has all four elements although the clone lost two of them
example : ((MState.init zero).run
    [.pushBack 1, .pushFront 2, .insertAfter 3 0, .insertBefore 4 1, .moveToFront 0, .moveToBack 1,
     .update 2 9, .clone, .use 1, .remove 0, .popFront, .range 1, .use 0]).map
      (fun os => os.map (·.seq) |>.drop 9) = some [[4, 9, 2], [9, 2], [9, 2], [1, 4, 9, 2]] := by decide

end Deque
