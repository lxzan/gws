import Gws.Model.Session
import Gws.Lemmas.ComposeSeq
import Gws.Props.C03
import Gws.Props.C15
/-!
# C01 — end-to-end message fidelity, exactly-once delivery and ordering (composition theorem)

Statement (properties.jsonl): every text or binary message sent on an open connection through any
write API (plain, vectored, asynchronous, streamed from a reader, broadcast), in either direction and
under any negotiated configuration, with a payload from empty up to both endpoints' size limits, is
handed to the receiver's message handler exactly once with the same opcode and byte-identical
payload.  With sequential handling, messages are delivered in the order they went onto the wire, and
messages queued by one goroutine through the asynchronous API go onto the wire in queueing order.

This file composes the WRITE model (`Writer`, C05) with the READ model (`Reader`, C03) of the peer:
the bytes the sender's calls hand to the transport (`Compose.runCalls`, Model/Compose.lean) are fed
to the peer's `ReadLoop` (`Reader.readLoop`).  Setting (`Compose.Compatible`): receiver of the
OPPOSITE role, the same negotiated extension on both sides, one shared `Codec`; mask keys are
universally quantified 4-byte inputs; `ReadMaxPayloadSize < 2^63` (a Go `int`).

"Exactly once, same opcode, byte-identical, in order" is ONE equation in every theorem: the list of
callbacks the loop delivers EQUALS the list of events the application asked for (`Send.event`), in
call order; the loop then waits for more input (`ending = .err .other`, the model's end of stream),
i.e. nothing was rejected and every byte was consumed.

Laws of the DEFLATE library are named hypotheses on the `Codec` parameter, never axioms:
`Compose.RoundTrip`, `Compose.MinOut` and, for broadcasts only, `Compose.DictFree` (Model/Compose.lean).
`Compose.tagCodec` satisfies the first two (proved), with an output that DEPENDS on the dictionary.

"Within both endpoints' limits" is `Compose.Send.OkPlain` / `Compose.Send.Ok`: payload ≤ the sender's
`WriteMaxPayloadSize` and ≤ the receiver's `ReadMaxPayloadSize`, Text valid UTF-8 wherever an endpoint
checks it (a receiver that checks answers invalid text with 1007: C03).  For a COMPRESSED message also
the compressed size ≤ `ReadMaxPayloadSize`: the receiver applies the limit to each frame length and to
the reassembled compressed message BEFORE inflating (reader.go), so a payload just below the limit
that DEFLATE expands is refused with 1009 — the C01 statement holds for compressed traffic only with
this extra condition; and (streamed, compressed) the compressor's output ≤ `WriteMaxPayloadSize` (the
hypothesis of C05's `writeFile_frames_compressed`).

NOT covered by theorems here (clauses of C01 that stay sampled by the harness):
* parallel handling (`ParallelEnabled`): delivery is then a multiset, the model's dispatch is
  sequential;
* real scheduling: that a call's transport writes are contiguous on the wire (they happen under
  `c.mu`: `Facts.doWriteLocks`, `Facts.doWriteFileLocks`, C07/C08), that the transport is a reliable
  ordered byte stream, and that a goroutine's program order is the order of its `Push` critical
  sections are the modelling assumptions behind `runCalls` and `async_fifo`;
* broadcast frame SHARING between connections is a sender-side fact (C05/C02); here a broadcast is
  the call `Send.bcast` whose frame was built under another connection's configuration and window,
  and its delivery IS proved (compressed: under `DictFree`);
* Close frames and the error paths (C04, C06, C13), writes racing with a close (C07–C09).
-/

namespace C01
open Compose

/-- **An uncompressed data frame is delivered.**  Whatever `genFrame` builds on its uncompressed
branch for a final (`fin`) Text or Binary frame — any frame configuration (plain, vectored,
broadcast), any slices, any 4-byte key, either role — a peer of the opposite role whose limit admits
the payload, whose UTF-8 gate (if on) it passes, and which is not in the middle of a fragmented
message, turns in ONE `readMessage` into exactly one callback with the same opcode and the
byte-identical payload; its state is unchanged and the input is consumed up to the frame's end. -/
theorem frame_delivered (w : Writer.Cfg) (r : Reader.Cfg) (codec : Codec)
    (hrole : r.isServer = !w.isServer) (hint : r.readMax < 2 ^ 63)
    (cps : Win) (opcode : Nat) (payloads : List Bytes) (fc : Writer.FrameCfg) (key wire : Bytes)
    (hk : key.length = 4) (hop : opcode = 1 ∨ opcode = 2) (hfin : fc.fin = true)
    (hz : Writer.willCompress w fc opcode payloads.flatten.length = false)
    (hg : Writer.genFrame w codec cps opcode payloads fc key = .ok wire)
    (hfit : (payloads.flatten.length : Int) ≤ r.readMax)
    (htext : r.checkUtf8 = true → opcode = 1 → Spec.Utf8.valid payloads.flatten = true)
    (st : Reader.State) (hidle : st.cont.initialized = false) (rest : Bytes) :
    Reader.step r codec st (wire ++ rest) = .ok st [.msg opcode payloads.flatten] rest := by
  obtain ⟨-, rfl⟩ := Writer.genFrame_ok hk (.inl hz) hg
  rw [hfin, hz, Writer.sentBody_plain hz]
  exact step_msg r codec st w.isServer false opcode _ _ key rest hrole hint (fun h => nomatch h) hop hk hfit rfl htext hidle

/-- **A compressed data frame is delivered** when the receiver's window holds the dictionary the
sender compressed against (law `RoundTrip`; `MinOut`): one callback with the same opcode and the
byte-identical payload, and the payload enters the receiver's window. -/
theorem frame_delivered_compressed (w : Writer.Cfg) (r : Reader.Cfg) (codec : Codec)
    (hrole : r.isServer = !w.isServer) (hint : r.readMax < 2 ^ 63) (hpd : r.pdEnabled = true)
    (hRT : RoundTrip codec) (hMin : MinOut codec)
    (cps : Win) (opcode : Nat) (payloads : List Bytes) (fc : Writer.FrameCfg) (key wire : Bytes)
    (hk : key.length = 4) (hop : opcode = 1 ∨ opcode = 2) (hfin : fc.fin = true) (hnb : fc.broadcast = false)
    (hz : Writer.willCompress w fc opcode payloads.flatten.length = true)
    (hg : Writer.genFrame w codec cps opcode payloads fc key = .ok wire)
    (hfit : (payloads.flatten.length : Int) ≤ r.readMax)
    (hzfit : ((Writer.stripTail (codec.compress w.bits cps.dict payloads)).length : Int) ≤ r.readMax)
    (htext : r.checkUtf8 = true → opcode = 1 → Spec.Utf8.valid payloads.flatten = true)
    (st : Reader.State) (hidle : st.cont.initialized = false) (hdict : cps.dict = st.dps.dict) (rest : Bytes) :
    Reader.step r codec st (wire ++ rest) =
      .ok { st with dps := st.dps.write payloads.flatten } [.msg opcode payloads.flatten] rest := by
  have hge := Writer.stripTail_length_ge (codec.compress w.bits cps.dict payloads)
  obtain ⟨-, rfl⟩ := Writer.genFrame_ok hk
    (.inr ⟨hMin _ _ _, by simp only [hnb, Bool.false_eq_true, ↓reduceIte]; omega⟩) hg
  rw [hz, Writer.sentBody_compressed hz]
  simp only [hfin, hnb, Bool.false_eq_true, ↓reduceIte]
  refine step_msg r codec st w.isServer true opcode _ payloads.flatten key rest hrole hint (fun _ => hpd) hop hk hzfit ?_
    htext hidle
  show codec.decompress r.readMax st.dps.dict _ = _
  rw [← hdict]
  exact hRT w.bits cps.dict payloads r.readMax hfit

/-- **A Ping/Pong is delivered and does not disturb reassembly.**  A Ping or Pong frame built by
`genFrame` with at most 125 bytes of payload is delivered in one `readMessage` as `.ping p` /
`.pong p` with the byte-identical payload, in EVERY reader state `st` — idle or holding the
fragments of an unfinished message — and `st` (continuation buffer, window) is returned unchanged:
control frames interleaved with the fragments of a message do not affect it. -/
theorem control_delivered (w : Writer.Cfg) (r : Reader.Cfg) (codec : Codec)
    (hrole : r.isServer = !w.isServer)
    (cps : Win) (opcode : Nat) (payloads : List Bytes) (fc : Writer.FrameCfg) (key wire : Bytes)
    (hk : key.length = 4) (hop : opcode = 9 ∨ opcode = 10) (hfin : fc.fin = true)
    (hg : Writer.genFrame w codec cps opcode payloads fc key = .ok wire)
    (h125 : payloads.flatten.length ≤ 125) (hfit : (payloads.flatten.length : Int) ≤ r.readMax)
    (st : Reader.State) (rest : Bytes) :
    Reader.step r codec st (wire ++ rest) =
      .ok st [if opcode = 9 then .ping payloads.flatten else .pong payloads.flatten] rest := by
  have hz := Writer.willCompress_control w fc opcode payloads.flatten.length (by omega)
  obtain ⟨-, rfl⟩ := Writer.genFrame_ok hk (.inl hz) hg
  rw [hfin, hz, Writer.sentBody_plain hz]
  exact step_controlFrame r codec st w.isServer opcode payloads.flatten key rest hrole hop hk h125 hfit

/-- **Plain `WriteFile` is reassembled into one message.**  For every reader script (any chunking,
empty reads, EOF with or after the last data) whose chunks respect the sender's limit and whose
total respects the receiver's: the call succeeds without touching the connection state, and the
peer's loop, started idle on exactly the bytes written, delivers ONE callback — the message's opcode
with all chunks concatenated — and then waits for input.  More generally (`∀ rest`) the loop on
those bytes followed by anything delivers that callback first and continues, idle again and with
its window untouched, on what follows. -/
theorem file_delivered (w : Writer.Cfg) (r : Reader.Cfg) (codec : Codec) (hc : Compatible w r)
    (hpd : w.pdEnabled = false)
    (cst : Writer.Conn) (hopen : cst.closed = false)
    (opcode : Nat) (hop : opcode = 1 ∨ opcode = 2) (reads : Writer.ReaderScript) (outs : List Bytes) (keys : Nat → Bytes)
    (hkeys : ∀ i, (keys i).length = 4) (heof : (Writer.readChunks reads).2 = true)
    (hchunk : ∀ c ∈ (Writer.readChunks reads).1, c.length ≤ w.writeMax)
    (hfit : ((Writer.readChunks reads).1.flatten.length : Int) ≤ r.readMax)
    (htext : r.checkUtf8 = true → opcode = 1 → Spec.Utf8.valid (Writer.readChunks reads).1.flatten = true)
    (st : Reader.State) (hidle : st.cont.initialized = false) :
    let o := Writer.writeFile w codec cst opcode reads outs keys
    o.err = none ∧ o.st = cst ∧
    Reader.readLoop r codec st o.wire =
      { evs := [.msg opcode (Writer.readChunks reads).1.flatten], ending := .err .other } ∧
    ∃ st' : Reader.State, st'.cont.initialized = false ∧ st'.dps = st.dps ∧ ∀ rest,
      Reader.readLoop r codec st (o.wire ++ rest) =
        { evs := .msg opcode (Writer.readChunks reads).1.flatten :: (Reader.readLoop r codec st' rest).evs,
          ending := (Reader.readLoop r codec st' rest).ending } := by
  intro o
  have hop16 : opcode < 16 := by omega
  have ho : o = _ := Writer.writeFile_plain_eq w codec cst opcode reads outs keys hop16 hkeys hopen hpd heof hchunk
  obtain ⟨c', hc', hrun⟩ := runs_fileFrames w r codec opcode keys hc.role hc.ext hc.int hkeys hop reads st _
    heof hidle hfit (by rw [hpd]; exact rfl) htext
  simp only [hpd, Bool.false_eq_true, ↓reduceIte] at hrun
  clear_value o
  subst ho
  refine ⟨rfl, rfl, (hrun []).readLoop_all, { cont := c', dps := st.dps }, hc', rfl, fun rest => ?_⟩
  rw [(hrun rest).readLoop]
  rfl

/-- **C01, main theorem (no permessage-deflate).**  Take ANY list of calls on an open connection —
each a data message through a single-frame API (`WriteMessage`, `WriteString`, `Writev`, the
dequeued `WriteAsync`/`WritevAsync`), a Ping or Pong with a payload, a plain `WriteFile` with any
reader chunking, or a `Broadcast` of a frame built under another connection — each within the limits
of both endpoints (`Send.OkPlain`) and with 4-byte keys.  Then every call returns no error, the
connection stays open, and the peer's `ReadLoop`, started in any idle state on the concatenation of
what the calls wrote, delivers EXACTLY the list of the corresponding events: one callback per call,
with that call's opcode and byte-identical payload, in call (= wire) order — nothing lost,
duplicated, reordered or altered — and then waits for more input. -/
theorem sequence_fidelity (w : Writer.Cfg) (r : Reader.Cfg) (codec : Codec) (hc : Compatible w r)
    (hpd : w.pdEnabled = false) (calls : List Call)
    (hok : ∀ c ∈ calls, (∀ i, (c.keys i).length = 4) ∧ c.send.OkPlain w r)
    (cst : Writer.Conn) (hopen : cst.closed = false)
    (rst : Reader.State) (hidle : rst.cont.initialized = false) :
    let s := runCalls w codec cst calls
    s.errs = [] ∧ s.st.closed = false ∧
    Reader.readLoop r codec rst s.wire = { evs := calls.map (·.send.event), ending := .err .other } := by
  intro s
  have hno : ¬ w.pdEnabled = true := by simp [hpd]
  obtain ⟨h1, h2, rst', _, _, hrun⟩ := sequence_delivered w r codec hc (fun h => absurd h hno) (fun h => absurd h hno)
    calls (fun _ _ h => absurd h hno) cst rst hopen hidle (fun h => absurd h hno)
    (okPlain_admissible w r codec hpd calls hok cst)
  exact ⟨h1, h2, (hrun []).readLoop_all⟩

/-- **… for every continuation and every cut of the byte stream.**  Under the hypotheses of
`sequence_fidelity`: (a) whatever bytes follow on the connection, the loop first delivers exactly
the expected events and then continues from an idle state on what follows (so the theorem composes
with later traffic); (b) for every way of cutting the stream after some prefix `b₁` (every
splitting of the byte stream into reads: the loop has seen `b₁` so far), what has been delivered by
then is a prefix of the expected event list — C03's `prefix_monotone`: delivery is incremental and
never retracted. -/
theorem sequence_fidelity_stream (w : Writer.Cfg) (r : Reader.Cfg) (codec : Codec) (hc : Compatible w r)
    (hpd : w.pdEnabled = false) (calls : List Call)
    (hok : ∀ c ∈ calls, (∀ i, (c.keys i).length = 4) ∧ c.send.OkPlain w r)
    (cst : Writer.Conn) (hopen : cst.closed = false)
    (rst : Reader.State) (hidle : rst.cont.initialized = false) :
    let s := runCalls w codec cst calls
    (∃ rst' : Reader.State, rst'.cont.initialized = false ∧ ∀ rest,
      Reader.readLoop r codec rst (s.wire ++ rest) =
        { evs := calls.map (·.send.event) ++ (Reader.readLoop r codec rst' rest).evs,
          ending := (Reader.readLoop r codec rst' rest).ending }) ∧
    (∀ b₁ b₂, s.wire = b₁ ++ b₂ → (Reader.readLoop r codec rst b₁).evs <+: calls.map (·.send.event)) := by
  intro s
  have hno : ¬ w.pdEnabled = true := by simp [hpd]
  obtain ⟨_, _, rst', hidle', _, hrun⟩ := sequence_delivered w r codec hc (fun h => absurd h hno) (fun h => absurd h hno)
    calls (fun _ _ h => absurd h hno) cst rst hopen hidle (fun h => absurd h hno)
    (okPlain_admissible w r codec hpd calls hok cst)
  refine ⟨⟨rst', hidle', fun rest => (hrun rest).readLoop⟩, fun b₁ b₂ hcut => ?_⟩
  have hall : Reader.readLoop r codec rst s.wire = { evs := calls.map (·.send.event), ending := .err .other } :=
    (hrun []).readLoop_all
  have := Reader.prefix_monotone r codec rst b₁ b₂
  rw [← hcut, hall] at this
  exact this

/-- **C01, main theorem (permessage-deflate negotiated)**, for a sender WITH context takeover (its
window enabled, threshold 0) or WITHOUT (window disabled, any threshold): the statement only needs
the two windows to be equal and to satisfy the C17 invariant when the sequence starts.  Take any
list of calls — data messages below the threshold (sent uncompressed) or above it (compressed
against the sender's current window), Pings/Pongs with payloads, `WriteFile` calls (compressed and
cut into frames by the aggregator, for every cutting `outs` of the library's output), broadcasts —
each admissible WHEN IT IS MADE (`Admissible` threads the sender's state; for compressed messages
the compressed size has to respect the receiver's limit too, see the header).  Under the library
law `RoundTrip` (and `MinOut`; `DictFree` if the sequence contains a broadcast): every call returns
no error, the connection stays open, the peer's loop delivers EXACTLY one callback per call with
the same opcode and the byte-identical (inflated) payload, in call order, then waits for input;
and afterwards the two windows are equal again (the invariant `sender.cps = receiver.dps` that makes
`RoundTrip` applicable to every message of the sequence: `Writer.doWrite_window` / C02 on the
sender side, `emitMessage` on the receiver side, C17 for chunk-wise versus whole-payload updates). -/
theorem sequence_fidelity_compressed (w : Writer.Cfg) (r : Reader.Cfg) (codec : Codec) (hc : Compatible w r)
    (hpd : w.pdEnabled = true)
    (hRT : RoundTrip codec) (hMin : MinOut codec) (calls : List Call)
    (hDF : (∃ c ∈ calls, c.send.isBcast = true) → DictFree codec)
    (cst : Writer.Conn) (hopen : cst.closed = false)
    (rst : Reader.State) (hidle : rst.cont.initialized = false)
    (hsync : cst.cps = rst.dps) (hwin : cst.cps.enabled = true → cst.cps.dict.length ≤ cst.cps.size)
    (hadm : Admissible w r codec cst calls) :
    let s := runCalls w codec cst calls
    s.errs = [] ∧ s.st.closed = false ∧
    Reader.readLoop r codec rst s.wire = { evs := calls.map (·.send.event), ending := .err .other } ∧
    ∃ rst' : Reader.State, rst'.cont.initialized = false ∧ s.st.cps = rst'.dps ∧ ∀ rest,
      Reader.readLoop r codec rst (s.wire ++ rest) =
        { evs := calls.map (·.send.event) ++ (Reader.readLoop r codec rst' rest).evs,
          ending := (Reader.readLoop r codec rst' rest).ending } := by
  intro s
  obtain ⟨h1, h2, rst', hidle', hs', hrun⟩ := sequence_delivered w r codec hc (fun _ => hRT) (fun _ => hMin)
    calls (fun c hcm _ hb => hDF ⟨c, hcm, hb⟩) cst rst hopen hidle (fun _ => ⟨hsync, hwin⟩) hadm
  exact ⟨h1, h2, (hrun []).readLoop_all, rst', hidle', (hs' hpd).1, fun rest => (hrun rest).readLoop⟩

/-- **… from the start of a session with negotiated parameters** (`Session.Cfg`, extension on): both
ends start with the window `Session.Cfg.winInit` — `Win.init sc.bits` under context takeover, disabled
without — so every admissible call sequence made from the fresh connection is delivered exactly, in
order.  Of `sc` only `enabled` and `winInit` enter; the sender's own `w.bits` and `w.threshold` are
not related to `sc.bits` and `sc.threshold`. -/
theorem sequence_fidelity_negotiated (sc : Session.Cfg) (w : Writer.Cfg) (r : Reader.Cfg) (codec : Codec)
    (hc : Compatible w r) (hen : sc.enabled = true) (hpd : w.pdEnabled = sc.enabled)
    (hRT : RoundTrip codec) (hMin : MinOut codec) (calls : List Call)
    (hDF : (∃ c ∈ calls, c.send.isBcast = true) → DictFree codec)
    (hadm : Admissible w r codec { cps := sc.winInit } calls) :
    let s := runCalls w codec { cps := sc.winInit } calls
    s.errs = [] ∧ s.st.closed = false ∧
    Reader.readLoop r codec { dps := sc.winInit } s.wire = { evs := calls.map (·.send.event), ending := .err .other } := by
  intro s
  have hwin : sc.winInit.enabled = true → sc.winInit.dict.length ≤ sc.winInit.size := by
    unfold Session.Cfg.winInit
    split
    · exact winOk_init sc.bits
    · exact winOk_disabled
  obtain ⟨h1, h2, h3, _⟩ := sequence_fidelity_compressed w r codec hc (by rw [hpd, hen]) hRT hMin calls hDF
    { cps := sc.winInit } rfl { dps := sc.winInit } rfl rfl hwin hadm
  exact ⟨h1, h2, h3⟩

/-- **Asynchronous writes start in queueing order, one at a time** (C15 restated for gws's write
queue; the `1` of `TQ.init 1` is `maxConcurrency` at both construction sites of a `Conn`:
`Facts.writeQueueMaxConcurrency`, checked in `SourceShape.taskqueue_sections`).  In every reachable state of the
queue — after any interleaving of `Push`es by any goroutines with task completions — the tasks
handed to the worker so far are a prefix of the submitted ones IN SUBMISSION ORDER, none is skipped
or started twice (`submitted = started ++ q`), at most one is running, and letting the worker finish
starts all of them, still in submission order, with no further `Push`.  Each task of the write queue
performs one write call under `c.mu` (`WriteAsync` → `doWrite`), so the wire carries the calls'
frames in `started` order; and `submitted` is the order of the `Push` critical sections, which for
the pushes of ONE goroutine is its program order.  Hence messages queued by one goroutine through
the asynchronous API go onto the wire in queueing order. -/
theorem async_fifo (as : List TQ.Act) (s : TQ) (h : (TQ.init 1).run as = some s) :
    s.started <+: s.submitted ∧ s.submitted = s.started ++ s.q ∧ s.running.length ≤ 1 ∧
    (let d := TQ.drain (s.q.length + s.running.length) s
     d.started = s.submitted ∧ d.q = [] ∧ d.running = []) := by
  obtain ⟨h1, h2, _⟩ := TQ.fifo_exactly_once 1 (by omega) as s h
  obtain ⟨d1, d2, d3, _⟩ := TQ.drains 1 (by omega) as s h
  exact ⟨h2, h1, TQ.one_at_a_time as s h, d3, d1, d2⟩

/-- **Asynchronously queued messages are delivered in queueing order.**  `job j` is the write call
task `j` performs.  After any interleaving of submissions and completions, once the queue has
drained, the calls have run one at a time in the order `started` = `submitted`; so (no
compression; with it, use `sequence_fidelity_compressed` in the same way) the peer's loop delivers
exactly the events of the submitted tasks, each once, in submission order. -/
theorem async_delivery_order (w : Writer.Cfg) (r : Reader.Cfg) (codec : Codec) (hc : Compatible w r)
    (hpd : w.pdEnabled = false)
    (as : List TQ.Act) (s : TQ) (h : (TQ.init 1).run as = some s) (job : Nat → Call)
    (hok : ∀ j ∈ s.submitted, (∀ i, ((job j).keys i).length = 4) ∧ (job j).send.OkPlain w r)
    (cst : Writer.Conn) (hopen : cst.closed = false)
    (rst : Reader.State) (hidle : rst.cont.initialized = false) :
    let d := TQ.drain (s.q.length + s.running.length) s
    Reader.readLoop r codec rst (runCalls w codec cst (d.started.map job)).wire =
      { evs := s.submitted.map (fun j => (job j).send.event), ending := .err .other } := by
  intro d
  have hd : d.started = s.submitted := (TQ.drains 1 (by omega) as s h).2.2.1
  rw [hd]
  have := (sequence_fidelity w r codec hc hpd (s.submitted.map job)
    (fun c hcm => by
      obtain ⟨j, hj, rfl⟩ := List.mem_map.mp hcm
      exact hok j hj) cst hopen rst hidle).2.2
  simpa [List.map_map, Function.comp_def] using this

-- what a server puts on the wire for the demo calls, byte for byte (encoding gate off so that the kernel can evaluate it)
example : (runCalls { Writer.demoCfg true false with checkUtf8 := false } Writer.demoCodec {} (demoCalls true)).wire =
    [0x81, 0x02, 0x68, 0x69,  0x89, 0x01, 0x07,  0x02, 0x01, 0x01,  0x00, 0x00,  0x80, 0x02, 0x02, 0x03,
     0x82, 0x01, 0x09,  0x8a, 0x00,  0x82, 0x00] := by decide

-- `sequence_fidelity` applies to them for BOTH roles (s = false: a client, every frame masked with its own key):
-- six calls, six callbacks, in order; the streamed message reassembled from three fragments
example (s : Bool) : Reader.readLoop (demoReader (!s) false) Writer.demoCodec {}
      (runCalls (Writer.demoCfg s false) Writer.demoCodec {} (demoCalls s)).wire =
    { evs := [.msg 1 [0x68, 0x69], .ping [7], .msg 2 [1, 2, 3], .msg 2 [9], .pong [], .msg 2 []], ending := .err .other } :=
  (sequence_fidelity (Writer.demoCfg s false) (demoReader (!s) false) Writer.demoCodec
    ⟨rfl, rfl, by show (1000 : Int) < 2 ^ 63; decide⟩ rfl (demoCalls s) (demoCalls_ok s) {} rfl {} rfl).2.2

-- `frame_delivered` for a client frame (hypotheses satisfiable with masking)
example (rest : Bytes) : ∃ wire, Writer.genFrame (Writer.demoCfg false false) Writer.demoCodec Win.disabled 2 [[1, 2], [3]]
      (Writer.msgCfg (Writer.demoCfg false false)) [9, 8, 7, 6] = .ok wire ∧
    Reader.step (demoReader true false) Writer.demoCodec {} (wire ++ rest) = .ok {} [.msg 2 [1, 2, 3]] rest := by
  have hg := Writer.genFrame_pass (cfg := Writer.demoCfg false false) (codec := Writer.demoCodec) (cps := Win.disabled)
    (opcode := 2) (payload := [[1, 2], [3]]) (fc := Writer.msgCfg (Writer.demoCfg false false)) (key := [9, 8, 7, 6])
    rfl (by decide) (by decide) (.inl (by decide))
  exact ⟨_, hg, frame_delivered (Writer.demoCfg false false) (demoReader true false) Writer.demoCodec rfl
    (by show (1000 : Int) < 2 ^ 63; decide) Win.disabled 2 [[1, 2], [3]] _ [9, 8, 7, 6] _ rfl (Or.inr rfl) rfl (by decide) hg
    (by show ((3 : Nat) : Int) ≤ 1000; decide) (by intro _ h; exact absurd h (by decide)) {} rfl rest⟩

-- a masked client frame read on concrete bytes (key 9 8 7 6, payload 1 2 3, one byte of the next frame behind it)
example : Reader.step (demoReader true false) Writer.demoCodec {} [0x82, 0x83, 9, 8, 7, 6, 8, 10, 4, 0xaa] =
    .ok {} [.msg 2 [1, 2, 3]] [0xaa] := by
  reader_eval [demoReader]
  decide

-- a Ping between two fragments leaves the fragments alone (`control_delivered` holds in every state)
example : Reader.step (demoReader false false) Writer.demoCodec
      { cont := { initialized := true, opcode := 2, buffer := [1] } } [0x89, 0x01, 0x07, 0x80, 0x00] =
    .ok { cont := { initialized := true, opcode := 2, buffer := [1] } } [.ping [7]] [0x80, 0x00] := by
  reader_eval [demoReader]

-- permessage-deflate with context takeover and the dictionary-sensitive toy library `tagCodec`
-- (laws proved: `tagCodec_roundTrip`, `tagCodec_minOut`): the bytes and the sender's window afterwards …
example : (runCalls zipW tagCodec { cps := Win.init 3 } zipCalls).wire =
    [0xc2, 0x04, 0, 1, 2, 3,  0x89, 0x01, 7,  0xc2, 0x03, 3, 0x68, 0x69,  0xc2, 0x04, 5, 4, 5, 6] ∧
    (runCalls zipW tagCodec { cps := Win.init 3 } zipCalls).st.cps.dict = [1, 2, 3, 0x68, 0x69, 4, 5, 6] := by
  decide

-- … and `sequence_fidelity_compressed` applies (`Admissible` is satisfiable: `zipCalls_adm`)
example : Reader.readLoop (demoReader false true) tagCodec { dps := Win.init 3 }
      (runCalls zipW tagCodec { cps := Win.init 3 } zipCalls).wire =
    { evs := [.msg 2 [1, 2, 3], .ping [7], .msg 2 [0x68, 0x69], .msg 2 [4, 5, 6]], ending := .err .other } :=
  (sequence_fidelity_compressed zipW (demoReader false true) tagCodec ⟨rfl, rfl, by decide⟩ rfl
    tagCodec_roundTrip tagCodec_minOut zipCalls (fun h => absurd h (by decide)) { cps := Win.init 3 } rfl
    { dps := Win.init 3 } rfl rfl (by decide) zipCalls_adm).2.2.1

-- the in-sync hypothesis is not idle: the third message's frame read against the RIGHT window is delivered …
example : Reader.step (demoReader false true) tagCodec { dps := { Win.init 3 with dict := [1, 2, 3] } }
      [0xc2, 0x03, 3, 0x68, 0x69] =
    .ok { dps := { Win.init 3 with dict := [1, 2, 3, 0x68, 0x69] } } [.msg 2 [0x68, 0x69]] [] := by
  reader_eval [demoReader, tagCodec, Win.init]
-- … and against a window that missed the first message the library reports an error: closed with 1011
example : Reader.step (demoReader false true) tagCodec { dps := Win.init 3 } [0xc2, 0x03, 3, 0x68, 0x69] =
    .stop [] (.err (.coded 1011)) := by
  reader_eval [demoReader, tagCodec, Win.init]

-- the compressed-size condition of `Send.Ok` is not idle either: a 3-byte payload is within a limit of 3,
-- its 4-byte compressed form is not, and the receiver refuses the frame with 1009 before inflating
example : Reader.step { demoReader false true with readMax := 3 } tagCodec { dps := Win.init 3 } [0xc2, 0x04, 0, 1, 2, 3] =
    .stop [] (.err (.status 1009)) := by
  reader_eval [demoReader]

-- the asynchronous queue: pushes racing with a completion are started in submission order
example : ((TQ.init 1).run [.push 5, .push 6, .next 5, .push 7]).map (fun s => (s.started, s.q, s.submitted)) =
    some ([5, 6], [7], [5, 6, 7]) := by decide

end C01
