import Gws.Props.TransWriter
/-!
# T3 — `compressData` (writer.go) and the trailer strip of `deflater.Compress` (compress.go), translated from the
source on every run, equal the model's `Writer.compressData` / `Writer.stripTail`

`deflater.Compress` is a function parameter of the translated `compressData` (payload, buffer, dictionary ->
buffer afterwards, error); here it is instantiated with the model's reading of it: the library's output for that
dictionary is appended to the buffer, then the sync-flush trailer is stripped.  The theorem fixes which dictionary
the compressor is given — none for a broadcast frame, the connection's window otherwise (C02, C14) — and how the
header of the compressed frame is computed and back-filled (C05).
-/
namespace TransEquiv

/-- the removal of `00 00 ff ff` at the end of the compressor's output = `Writer.stripTail` -/
theorem stripTail_eq (dst : Bytes) : Trans.deflater_Compress_stripTail dst = .ok (Writer.stripTail dst) := by
  unfold Trans.deflater_Compress_stripTail
  rw [stripTail_go]
  by_cases h4 : (dst.length : Int) ≥ 4 <;> by_cases hu : goU32BE (dst.drop ((dst.length : Int) - 4).toNat) = 65535 <;>
    simp [h4, hu]

/-- the same removal in `flateWriter.Flush` (the last frame of a streamed compressed message) -/
theorem flush_stripTail_eq (buf : Bytes) : Trans.flateWriter_Flush_stripTail buf = .ok (Writer.stripTail buf) := by
  unfold Trans.flateWriter_Flush_stripTail
  rw [stripTail_go]
  by_cases h4 : (buf.length : Int) ≥ 4 <;> by_cases hu : goU32BE (buf.drop ((buf.length : Int) - 4).toNat) = 65535 <;>
    simp [h4, hu]

/-- `compressData` = `Writer.compressData`, for a compressor that succeeds (the branch `return nil, err` is neither modelled
nor tied: `Writer.compressData` never fails).  The translation returns the caller's `buf` afterwards, the returned buffer
and the error; Go returns `buf` itself, hence `(r, r, none)`.  `hlen`: the buffer still holds the 14 padding bytes after
the strip (the compressor's output is never shorter than its trailer) and is shorter than 2^62 bytes (a Go `int` would give 2^63). -/
theorem compressData_eq (cfg : Writer.Cfg) (codec : Codec) (cps : Win) (opcode : UInt8) (payload : List Bytes) (buf : Bytes)
    (fc : Writer.FrameCfg) (maskNum : UInt32)
    (hlen : ∀ dict, 14 ≤ (Writer.stripTail (buf ++ codec.compress cfg.bits dict payload)).length
      ∧ (Writer.stripTail (buf ++ codec.compress cfg.bits dict payload)).length < 2 ^ 62) :
    ∃ r, Writer.compressData cfg codec cps opcode.toNat payload buf fc (goBytesU32LE maskNum) = .ok r ∧
      Trans.Conn_compressData opcode payload.flatten buf (cfg_broadcast := fc.broadcast) (c_cpsWindow_dict := cps.dict)
        (c_isServer := cfg.isServer) (cfg_fin := fc.fin)
        (c_deflater_Compress := fun _ b dict => (Writer.stripTail (b ++ codec.compress cfg.bits dict payload), none))
        (maskNum := maskNum) = (r, r, none) := by
  refine ⟨_, rfl, ?_⟩
  unfold Trans.Conn_compressData
  have hd : (if (!fc.broadcast) = true then cps.dict else ([] : List UInt8)) = (if fc.broadcast = true then [] else cps.dict) := by
    cases fc.broadcast <;> rfl
  simp only [hd]
  obtain ⟨hl1, hl2⟩ := hlen (if fc.broadcast = true then [] else cps.dict)
  generalize Writer.stripTail (buf ++ codec.compress cfg.bits (if fc.broadcast = true then [] else cps.dict) payload) = C at hl1 hl2
  have hne : ((none : Option GoErr) != none) = false := rfl
  simp only [hne, Bool.false_eq_true, if_false, Facts.frameHeaderSize, Int.ofNat_eq_natCast]
  have hps : ((C.length : Int) - ((14 : Nat) : Int)) = ((C.length - 14 : Nat) : Int) := by omega
  have hps' : ((C.length : Int) - (14 : Int)) = ((C.length - 14 : Nat) : Int) := by omega
  have hu : Writer.toU64 ((C.length - 14 : Nat) : Int) = C.length - 14 := by
    unfold Writer.toU64; omega
  rw [hps, hps', hu]
  rw [goBackfill_eq cfg.isServer fc.fin true opcode (C.length - 14) (by omega) maskNum _ rfl C _ hl1 (by cases cfg.isServer <;> rfl)]

end TransEquiv
