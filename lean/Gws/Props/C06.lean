import Gws.Lemmas.Close
import Gws.Lemmas.Utf8
/-!
# C06 — close handshake: right reply, one Close frame, nothing after it (decision-table part)

Statement: on receiving a Close frame gws reports the peer's status code and reason to the
application, answers with exactly one Close frame (empty if none was given; 1002 for a one-byte body
or a status RFC 6455 §7.4 forbids on the wire: below 1000, 1004-1006, 1015, 1016-2999, 5000 and
above; 1007 for a non-UTF-8 reason when checking is on; the same status for 3000-4999; otherwise
1000) and closes the transport.  […] a locally requested close carries the caller's status (at
least 1000) and reason cut to 123 bytes […].

This file: the reply table and the local close body, for all 65536 codes and all reasons, by
arithmetic over the literals `tools/factgen` extracts from `emitClose`/`writeClose`/`WriteClose`
(`Facts`), so a changed literal breaks these proofs.  The schedule part (at most one Close frame,
nothing after it, later writes rejected) is in `Gws/Props/C06Conc.lean`.
-/

namespace Close

/-- **C06, reply table.** For every Close body (any code, any reason, checking on or off) the
status `emitClose` answers with is one the property allows, and the application is told the peer's
code and reason.  The status answered is `response`, 0 standing for the empty body (`End.replyStatus`, Model/Reader).
For a forbidden code with a non-UTF-8 reason `Spec.closeReplies` allows 1007 or 1002: gws answers 1007
(`closeReply_bad_reason`). -/
theorem closeReply_spec (utf8 : Bool) (body : Bytes) :
    (Reader.End.peerClose (emitClose utf8 body)).replyStatus ∈ Spec.closeReplies utf8 body ∧
    ((emitClose utf8 body).realCode, (emitClose utf8 body).reason) = Spec.closeSeen body :=
  emitClose_spec utf8 body

/-- the table, spelled out for a body with a status code and a valid (or unchecked) reason -/
theorem closeReply_table (utf8 : Bool) (a b : UInt8) (reason : Bytes)
    (hr : utf8 = false ∨ Spec.Utf8.valid reason = true) :
    let code := a.toNat * 256 + b.toNat
    (emitClose utf8 (a :: b :: reason)).response =
      if code < 1000 ∨ (1004 ≤ code ∧ code ≤ 1006) ∨ code = 1015 ∨ (1016 ≤ code ∧ code ≤ 2999) ∨ code ≥ 5000 then 1002
      else if 3000 ≤ code ∧ code ≤ 4999 then code else 1000 := by
  intro code
  have hc : Utf8.checkEncoding utf8 Facts.opClose reason = true := by
    rw [checkEncoding_close]; rcases hr with h | h <;> simp [h]
  simp only [emitClose, hc, Bool.not_true, Bool.false_eq_true, ↓reduceIte, be16_eq, classify_spec]
  rfl

/-- a non-UTF-8 reason with checking on is answered with 1007 -/
theorem closeReply_bad_reason (a b : UInt8) (reason : Bytes) (hv : Spec.Utf8.valid reason = false) :
    (emitClose true (a :: b :: reason)).response = 1007 := by
  have hc : Utf8.checkEncoding true Facts.opClose reason = false := by
    rw [checkEncoding_close]; simp [hv]
  simp [emitClose, hc]; rfl

theorem statusBytes_length (c : Nat) : (statusBytes c).length = if c = 0 then 0 else 2 := by
  unfold statusBytes; split <;> simp

theorem cutBody_eq_take (body : Bytes) : cutBody body = body.take 125 := by
  unfold cutBody
  split
  · rfl
  · rename_i h
    exact (List.take_of_length_le (by simpa [Facts.closeBodyCut] using h)).symm

/-- **C06, local close.** `WriteClose(code, reason)` sends a Close body made of the caller's status
raised to at least 1000, followed by the reason cut to 123 bytes (125 bytes in all). -/
theorem local_close_frame (code : Nat) (reason : Bytes) :
    localCloseBody code reason = statusBytes (max 1000 code) ++ reason.take 123 := by
  have h1 : Facts.localCloseMinCode = 1000 := rfl
  have h2 : Facts.localCloseRaisedTo = 1000 := rfl
  have hmax : (if code < 1000 then 1000 else code) = max 1000 code := by
    split <;> omega
  have hl : (statusBytes (max 1000 code)).length = 2 := by
    rw [statusBytes_length, if_neg (by omega)]
  unfold localCloseBody
  simp only [h1, h2]
  rw [cutBody_eq_take, hmax, List.take_append, hl, List.take_of_length_le (by omega)]

/-- the Close body never exceeds the 125-byte control-frame limit -/
theorem local_close_length (code : Nat) (reason : Bytes) : (localCloseBody code reason).length ≤ 125 := by
  rw [localCloseBody, cutBody_eq_take, List.length_take]
  omega

theorem valid_nil : Spec.Utf8.valid [] = true := Spec.Utf8.valid_nil

example : (emitClose true [0x03, 0xe8]).response = 1000 := by
  have := closeReply_table true 0x03 0xe8 [] (Or.inr valid_nil); simpa using this
example : (emitClose true [0x03, 0xf6]).response = 1000 := by      -- 1014
  have := closeReply_table true 0x03 0xf6 [] (Or.inr valid_nil); simpa using this
example : (emitClose true [0x03, 0xed]).response = 1002 := by      -- 1005
  have := closeReply_table true 0x03 0xed [] (Or.inr valid_nil); simpa using this
example : (emitClose true [0x0b, 0xb8]).response = 3000 := by
  have := closeReply_table true 0x0b 0xb8 [] (Or.inr valid_nil); simpa using this
example : (emitClose true [0xff]).response = 1002 := by simp [emitClose]; rfl
example : (emitClose true []).response = 0 := by simp [emitClose]

end Close
