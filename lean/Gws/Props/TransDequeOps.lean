import Gws.Props.TransDequeCore
/-!
# T3 for internal/deque.go (C20), part 2: the operations of the API

Each translated method of `Deque[T]` equals the model's function, for every deque value and every argument (no
well-formedness hypothesis: where the Go code panics the model yields `none`, and conversely). Both sides begin with the
same call (`Get`, `getElement`, `doRemove`): `Option.bind_congr` compares what follows it, for each value it can return.
Unused `simp` arguments (linter option) and `-Deque.load_mk`: as in `TransDequeCore`.
-/
set_option linter.unusedSimpArgs false

namespace TransEquiv.Dq
open GoDeque TransDeque

theorem PushFront_eq (d : Deque) (value : Nat) : Deque_PushFront d value = d.pushFront value := by
  unfold Deque_PushFront Deque.pushFront
  simp only [getElement_eq, Option.bind_eq_bind]
  refine Option.bind_congr fun r hg => ?_
  have hp := getElement_post hg
  simp [deref_ne, assign_ne, hp.1, doPushFront_eq _ _ hp.1, Deque.setValue]

theorem PushBack_eq (d : Deque) (value : Nat) : Deque_PushBack d value = d.pushBack value := by
  unfold Deque_PushBack Deque.pushBack
  simp only [getElement_eq, Option.bind_eq_bind]
  refine Option.bind_congr fun r hg => ?_
  have hp := getElement_post hg
  simp [deref_ne, assign_ne, hp.1, doPushBack_eq _ _ hp.1, Deque.setValue]

theorem PopFront_eq (d : Deque) : Deque_PopFront d = d.popFront := by
  unfold Deque_PopFront Deque.popFront
  simp only [Front_eq, Option.bind_eq_bind]
  refine Option.bind_congr fun ele _ => ?_
  by_cases he : ele = 0
  · simp [he]
  · simp [he, deref_ne, doRemove_eq _ _ he]
    refine Option.bind_congr fun d2 _ => ?_
    simp [putElement_eq _ _ he, autoReset_eq]
    by_cases hl : (d2.putElement ele).length = 0 <;> simp [hl]

theorem PopBack_eq (d : Deque) : Deque_PopBack d = d.popBack := by
  unfold Deque_PopBack Deque.popBack
  simp only [Back_eq, Option.bind_eq_bind]
  refine Option.bind_congr fun ele _ => ?_
  by_cases he : ele = 0
  · simp [he]
  · simp [he, deref_ne, doRemove_eq _ _ he]
    refine Option.bind_congr fun d2 _ => ?_
    simp [putElement_eq _ _ he, autoReset_eq]
    by_cases hl : (d2.putElement ele).length = 0 <;> simp [hl]

theorem Remove_eq (d : Deque) (addr : Nat) : Deque_Remove d addr = d.remove addr := by
  unfold Deque_Remove Deque.remove
  simp only [Get_eq, Option.bind_eq_bind]
  refine Option.bind_congr fun ele _ => ?_
  by_cases he : ele = 0
  · simp [he]
  · simp [he, deref_ne, doRemove_eq _ _ he]
    refine Option.bind_congr fun d2 _ => ?_
    simp [putElement_eq _ _ he, autoReset_eq]
    by_cases hl : (d2.putElement ele).length = 0 <;> simp [hl]

theorem Update_eq (d : Deque) (addr value : Nat) : Deque_Update d addr value = d.update addr value := by
  unfold Deque_Update Deque.update
  simp only [Get_eq, Option.bind_eq_bind]
  refine Option.bind_congr fun ele _ => ?_
  by_cases he : ele = 0
  · simp [he]
  · simp [he, deref_ne, assign_ne, Deque.setValue]

theorem MoveToBack_eq (d : Deque) (addr : Nat) : Deque_MoveToBack d addr = d.moveToBack addr := by
  unfold Deque_MoveToBack Deque.moveToBack
  simp only [Get_eq, Option.bind_eq_bind]
  refine Option.bind_congr fun ele _ => ?_
  by_cases he : ele = 0
  · simp [he]
  · simp [he, deref_ne, doRemove_eq _ _ he]
    refine Option.bind_congr fun d2 _ => ?_
    simp [he, deref_ne, assign_ne, doPushBack_eq _ _ he]
    -- the translation clears `prev` and `next` by two writes, the model by one `store`: in range the second write
    -- overwrites the first (`store_store_same`); out of range (an ill-formed deque only) both sides write nothing
    by_cases hl : ele < d2.elements.length
    · simp [Deque.load_store_self hl, store_store_same]
    · simp [store_oob _ hl]

theorem MoveToFront_eq (d : Deque) (addr : Nat) : Deque_MoveToFront d addr = d.moveToFront addr := by
  unfold Deque_MoveToFront Deque.moveToFront
  simp only [Get_eq, Option.bind_eq_bind]
  refine Option.bind_congr fun ele _ => ?_
  by_cases he : ele = 0
  · simp [he]
  · simp [he, deref_ne, doRemove_eq _ _ he]
    refine Option.bind_congr fun d2 _ => ?_
    simp [he, deref_ne, assign_ne, doPushFront_eq _ _ he]
    by_cases hl : ele < d2.elements.length
    · simp [Deque.load_store_self hl, store_store_same]
    · simp [store_oob _ hl]

/-- the translation returns inside both branches of a final `if`, the model after it -/
theorem ite_some_pair {α β : Type} (c : Prop) [Decidable c] (a b : α) (e : β) :
    (if c then some (a, e) else some (b, e)) = some (if c then a else b, e) := by
  split <;> rfl

theorem InsertAfter_eq (d : Deque) (value mark : Nat) : Deque_InsertAfter d value mark = d.insertAfter value mark := by
  unfold Deque_InsertAfter Deque.insertAfter
  simp only [getElement_eq, Get_eq, IsNil_eq]
  by_cases hm : mark = 0
  · simp [hm]
  · simp only [hm, if_false, Option.bind_eq_bind]
    refine Option.bind_congr fun r hg => ?_
    obtain ⟨d1, e1⟩ := r
    have hp := getElement_post hg
    simp only [Option.bind_some, Option.pure_def, get_bind, deref_ne hm]
    generalize hN : (d1.load mark).next = N
    -- `e1` may alias the mark only in an ill-formed deque; decided here, before the translated side is normalised, so
    -- that a read of the mark's slot after a store into slot `e1` (sequential assignments) is resolved either way
    by_cases h10 : e1 = mark
    · subst h10
      by_cases h2z : N = 0 <;>
        simp [hm, hN, ↓deref_bind, ↓assign_bind, hp.1, hp.2, h2z, Deque.load_store_self hp.2, store_store_same,
          Deque.setNext, Deque.setPrev, ite_some_pair, -Deque.load_mk]
    · by_cases h2z : N = 0 <;>
        simp [hm, hN, ↓deref_bind, ↓assign_bind, hp.1, hp.2, h2z, Deque.load_store_self hp.2,
          Deque.load_store_ne (Ne.symm h10), store_store_same, Deque.setNext, Deque.setPrev, ite_some_pair,
          -Deque.load_mk]

theorem InsertBefore_eq (d : Deque) (value mark : Nat) : Deque_InsertBefore d value mark = d.insertBefore value mark := by
  unfold Deque_InsertBefore Deque.insertBefore
  simp only [getElement_eq, Get_eq, IsNil_eq]
  by_cases hm : mark = 0
  · simp [hm]
  · simp only [hm, if_false, Option.bind_eq_bind]
    refine Option.bind_congr fun r hg => ?_
    obtain ⟨d1, e1⟩ := r
    have hp := getElement_post hg
    simp only [Option.bind_some, Option.pure_def, get_bind, deref_ne hm]
    generalize hP : (d1.load mark).prev = P
    by_cases h12 : e1 = mark
    · subst h12
      by_cases h0z : P = 0 <;>
        simp [hm, hP, ↓deref_bind, ↓assign_bind, hp.1, hp.2, h0z, Deque.load_store_self hp.2, store_store_same,
          Deque.setNext, Deque.setPrev, ite_some_pair, -Deque.load_mk]
    · by_cases h0z : P = 0 <;>
        simp [hm, hP, ↓deref_bind, ↓assign_bind, hp.1, hp.2, h0z, Deque.load_store_self hp.2,
          Deque.load_store_ne (Ne.symm h12), store_store_same, Deque.setNext, Deque.setPrev, ite_some_pair,
          -Deque.load_mk]

example : (do
    let (d, _) ← Deque_PushBack Deque.zero 7
    let (d, a) ← Deque_PushBack d 8
    let (d, _) ← Deque_PushFront d 6
    let d ← Deque_MoveToFront d a
    let (d, x) ← Deque_PopFront d
    let (d, y) ← Deque_PopBack d
    pure (x, y, d.length)) = some (8, 7, 1) := by decide +kernel

end TransEquiv.Dq
