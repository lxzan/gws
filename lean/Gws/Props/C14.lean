import Gws.Lemmas.Conc.OwnPaths
import Gws.Lemmas.Conc.OwnGeneral
import Gws.Lemmas.Conc.OwnBroadcast
import Gws.Lemmas.Conc.OwnTeardown
import Gws.Lemmas.Conc.OwnMutex
/-!
# C14 — buffer ownership: no mutation of caller data, no sharing of pooled memory

Statement: gws never modifies a payload passed to a write call and never reads it after the call (or
its completion callback, or for a broadcaster its Close plus pending sends) has finished; the bytes of
a delivered message or ping/pong payload stay unchanged until the application closes the message.
Pooled buffers, shared broadcast frames and per-connection compression windows are never visible to
two owners at once: not across connections, and not between a connection that is finishing and
writers still in flight on it.

The property is modelled as an ownership protocol (`Gws/Model/Conc/Own.lean`): a heap of numbered
locations with one owner each, and for every code path of the library the list of ownership events it
performs. `run` is `none` as soon as an event uses a buffer its path does not own, puts one back twice,
takes one that is not in the pool, writes a caller payload, reads one outside its lend interval, or
touches an application-owned buffer. The paths were derived by reading the Go source and are tied to
the real code by suite `own trace …`: the Get/Put projection of each path equals, event for event, what
the pool hook records when that path runs alone on a real connection.

What is proved: (1) every path is well owned from every heap in which its buffers are free;
(2) every interleaving of well-owned event lists over disjoint locations is well owned (any number of
concurrent paths, on one or many connections), and paths that do share locations — `c.mu` and the
window on one connection, a deflater's scratch and writer across connections — never reach a
violation in any interleaving either, because they use them in critical sections only; (3) in any run without violation a delivered buffer is
not touched by the library until the application closes it, and a caller payload is neither written
nor read outside its lend interval; (4) the broadcaster releases its shared frames exactly once, after
`Close` and after the last pending send, under the documented API precondition — and a witness that
violating the precondition leads to a double release; (5) at the end of a server connection the
compression window is put back only while the read loop itself holds `c.mu`, over every interleaving
of writers, the closed flag and the reclamation.

Assumptions (stated, not proved): `sync.Pool` hands an object to one taker at a time and hands out
only what it holds (so concurrent paths hold distinct incarnations: the disjointness hypothesis of
(2)); a `sync.Mutex` blocks a second locker (a `lock` event of a held mutex is not enabled); the
application's `io.Reader` passed to `WriteFile` does not retain the slice it is asked to fill.
-/

namespace Own

/-! ## (1) Every path of the library is well owned

At each location (`wellOwned_iff`) only the flags that change an owner there are split. The `≠` hypotheses enter
through the `*` of `simp only [own_proj, *]`: an event at another location is dropped (`bufOps_ne'`). -/

/-- **An unfragmented data frame** (`readMessage`, compressed or not, from a client or a server,
handler closing the message or keeping it): from any heap in which the frame buffer `a` and the output
buffer `b` are free, the deflater scratch `s` is parked with its mutex free, and the decompression
window `d` is the read loop's, the path runs without violation and leaves everything as it was — the
one exception being the delivered buffer (`a` uncompressed, `b` compressed) if the handler kept it,
which is then the application's. -/
theorem path_well_owned_readSingle (compressed masked closeNow : Bool) (p : Pid) (a b s : Buf) (d : Option Buf)
    (h : Heap) (hab : a ≠ b) (has : a ≠ s) (hbs : b ≠ s) (hda : d ≠ some a) (hdb : d ≠ some b) (hds : d ≠ some s)
    (ha : (h.cell a).own = .pool) (hb : (h.cell b).own = .pool)
    (hs : h.cell s = ⟨.guarded, none⟩) (hd : ∀ x, d = some x → (h.cell x).own = .lib p) :
    WellOwned h (readSingle compressed masked closeNow p a b s d)
      (if closeNow then [] else [if compressed then b else a]) := by
  refine (wellOwned_iff _ _ _).mpr ⟨fun x => ?_, fun y => ?_⟩
  · by_cases h1 : x = a
    · subst h1; rw [cell_pool_eta ha]; simp only [readSingle, inflate, handler, own_proj, *]
      cases compressed <;> cases closeNow <;> simp only [own_run, *]
    by_cases h2 : x = b
    · subst h2; rw [cell_pool_eta hb]; simp only [readSingle, inflate, handler, own_proj, *]
      cases compressed <;> cases closeNow <;> simp only [own_run, *]
    have hx : x ∉ (if closeNow = true then [] else [if compressed = true then b else a]) := by
      cases closeNow <;> cases compressed <;> simp [h1, h2]
    rw [if_neg hx]
    by_cases h3 : x = s
    · subst h3; rw [readSingle_at_scratch _ _ _ _ _ _ _ _ has hbs hds, hs]; cases compressed <;> simp only [own_run]
    by_cases h4 : d = some x
    · have := hd x h4
      subst h4; simp only [readSingle, inflate, handler, own_proj, *]; cases compressed <;> simp only [own_run, *]
    · rw [readSingle_at_other _ _ _ _ _ _ _ _ _ h1 h2 h3 h4]; rfl
  · rw [readSingle_callerOps]; rfl

/-- **A fragmented message** of any number of frames: every frame buffer goes back to the pool before
the next frame is read; the reassembly buffer `k` (not pooled) or, compressed, the inflated copy `b` is
delivered. -/
theorem path_well_owned_readFragments (compressed masked closeNow : Bool) (p : Pid) (k : Buf) (as : List Buf)
    (a b s : Buf) (d : Option Buf) (h : Heap)
    (hka : k ≠ a) (hkb : k ≠ b) (hks : k ≠ s) (hab : a ≠ b) (has : a ≠ s) (hbs : b ≠ s)
    (hdk : d ≠ some k) (hda : d ≠ some a) (hdb : d ≠ some b) (hds : d ≠ some s)
    (hk : (h.cell k).own = .pool) (ha : (h.cell a).own = .pool) (hb : (h.cell b).own = .pool)
    (hs : h.cell s = ⟨.guarded, none⟩) (hd : ∀ x, d = some x → (h.cell x).own = .lib p)
    (hfr : ∀ x ∈ as, x ≠ k ∧ (h.cell x).own = .pool) :
    WellOwned h (readFragments compressed masked closeNow p k as a b s d)
      (if closeNow then [] else [if compressed then b else k]) := by
  refine (wellOwned_iff _ _ _).mpr ⟨fun x => ?_, fun y => ?_⟩
  · simp only [readFragments, lastFragment, inflate, handler, bufOps_append]
    by_cases h0 : x = k
    · subst h0
      rw [cell_pool_eta hk, bufOps_self, bufOps_nil, List.singleton_append, List.cons_append, runCell_alloc,
        runCell_seq (runCell_loop fun a' ha' => fragment_at masked p x a' x _ (hfr a' ha').1
          (fun e => absurd e.symm (hfr a' ha').1) (fun _ => rfl))]
      simp only [own_proj, *]; cases compressed <;> cases closeNow <;> simp only [own_run, *]
    -- elsewhere the non-final fragments leave the cell as it is
    rw [bufOps_ne' h0, bufOps_nil, List.nil_append,
      runCell_seq (runCell_loop fun a' ha' => fragment_at masked p k a' x _ (hfr a' ha').1
        (fun e => e ▸ (hfr a' ha').2) (fun e => absurd e h0))]
    by_cases h2 : x = b
    · subst h2; rw [cell_pool_eta hb]; simp only [own_proj, *]
      cases compressed <;> cases closeNow <;> simp only [own_run, *]
    have hx : x ∉ (if closeNow = true then [] else [if compressed = true then b else k]) := by
      cases closeNow <;> cases compressed <;> simp [h0, h2]
    rw [if_neg hx]
    by_cases h1 : x = a
    · subst h1; rw [cell_pool_eta ha]; simp only [own_proj, *]; cases compressed <;> simp only [own_run]
    by_cases h3 : x = s
    · subst h3; simp only [own_proj, *]; cases compressed <;> simp only [own_run]
    by_cases h4 : d = some x
    · have := hd x h4
      subst h4; simp only [own_proj, *]; cases compressed <;> simp only [own_run, *]
    · simp only [own_proj, *]; simp only [own_run]
  · simp only [readFragments, lastFragment, inflate, handler, callerOps_append,
      callerOps_loop as (callerOps_fragment masked p k · y), own_proj]
    simp only [own_run]

/-- **A ping/pong with payload**: a private slice, delivered to the handler, never reclaimed. -/
theorem path_well_owned_readControl (masked : Bool) (p : Pid) (k : Buf) (h : Heap) (hk : (h.cell k).own = .pool) :
    WellOwned h (readControl masked p k) [k] := by
  refine (wellOwned_iff _ _ _).mpr ⟨fun x => ?_, fun y => ?_⟩
  · simp only [readControl]
    by_cases h0 : x = k
    · subst h0; rw [cell_pool_eta hk]; simp only [own_proj]; simp only [own_run]
    · simp only [own_proj, *]; simp only [own_run, *]
  · simp only [readControl, own_proj]; simp only [own_run]

/-- **`doWrite`** (`WriteMessage`, `WriteAsync`, `WritePing`, …; compressed or not; client or server):
from any heap in which the payload is not lent, `c.mu` is free (and guards the window if one is used),
the deflater's writer is parked and the frame buffer is free. The caller's payload is only read, and
only between `callerLend` and `callerReturn` (else `run` would be `none`). -/
theorem path_well_owned_writeFrame (compressed window client : Bool) (p : Pid) (c : CBuf) (m z f : Buf) (h : Heap)
    (om : Owner) (hmz : m ≠ z) (hmf : m ≠ f) (hzf : z ≠ f)
    (hc : h.lent c = none) (hm : h.cell m = ⟨om, none⟩) (hw : window = true → om = .guarded)
    (hz : h.cell z = ⟨.guarded, none⟩) (hf : (h.cell f).own = .pool) :
    WellOwned h (writeFrame compressed window client p c m z f) [] := by
  refine (wellOwned_iff _ _ _).mpr ⟨fun x => ?_, fun y => ?_⟩
  · simp only [List.not_mem_nil, if_false]
    by_cases h0 : x = m
    · subst h0; rw [writeFrame_at_mu _ _ _ _ _ _ _ _ hmz hmf, hm]
      cases window
      · cases compressed <;> simp only [own_run, Bool.and_false]
      · cases hw rfl; cases compressed <;> simp only [own_run, Bool.and_true]
    by_cases h1 : x = z
    · subst h1; rw [writeFrame_at_writer _ _ _ _ _ _ _ _ hmz hzf, hz]; cases compressed <;> simp only [own_run]
    by_cases h2 : x = f
    · subst h2; rw [cell_pool_eta hf]; simp only [writeFrame, own_proj, *]
      cases compressed <;> simp only [own_run]
    · rw [writeFrame_at_other _ _ _ _ _ _ _ _ _ h0 h1 h2]; rfl
  · by_cases h0 : y = c
    · subst h0; simp only [writeFrame, own_proj, *]; cases compressed <;> simp only [own_run]
    · rw [writeFrame_callerOps_other _ _ _ _ _ _ _ _ _ h0]; rfl

/-- **`WriteClose`**: the close payload is assembled in a pooled buffer and framed from there. -/
theorem path_well_owned_writeClose (client : Bool) (p : Pid) (m q f : Buf) (h : Heap) (om : Owner)
    (hmq : m ≠ q) (hmf : m ≠ f) (hqf : q ≠ f)
    (hm : h.cell m = ⟨om, none⟩) (hq : (h.cell q).own = .pool) (hf : (h.cell f).own = .pool) :
    WellOwned h (writeClose client p m q f) [] := by
  refine (wellOwned_iff _ _ _).mpr ⟨fun x => ?_, fun y => ?_⟩
  · simp only [writeClose, frameFrom]
    by_cases h0 : x = m
    · subst h0; simp only [own_proj, *]; simp only [own_run]
    by_cases h1 : x = q
    · subst h1; rw [cell_pool_eta hq]; simp only [own_proj, *]; simp only [own_run]
    by_cases h2 : x = f
    · subst h2; rw [cell_pool_eta hf]; simp only [own_proj, *]; simp only [own_run]
    · simp only [own_proj, *]; simp only [own_run]
  · simp only [writeClose, frameFrom, own_proj]; simp only [own_run]

/-- **`WriteFile`, uncompressed**, any number of segments. -/
theorem path_well_owned_writeFilePlain (client : Bool) (p : Pid) (m s : Buf) (fs : List Buf) (h : Heap) (om : Owner)
    (hms : m ≠ s) (hm : h.cell m = ⟨om, none⟩) (hs : (h.cell s).own = .pool)
    (hfs : ∀ f ∈ fs, m ≠ f ∧ s ≠ f ∧ (h.cell f).own = .pool) :
    WellOwned h (writeFilePlain client p m s fs) [] := by
  refine (wellOwned_iff _ _ _).mpr ⟨fun x => ?_, fun y => ?_⟩
  · simp only [writeFilePlain, bufOps_append, List.not_mem_nil, if_false]
    by_cases h0 : x = m
    · subst h0; simp only [own_proj, *]
      rw [runCell_lock, runCell_seq (runCell_loop fun f hf => segment_at client p s f x _ (hfs f hf).2.1
        (fun e => absurd e (hfs f hf).1) (fun e => absurd e hms))]
      simp only [own_run]
    by_cases h1 : x = s
    · subst h1; rw [cell_pool_eta hs]; simp only [own_proj, *]
      rw [runCell_get, runCell_seq (runCell_loop fun f hf => segment_at client p x f x _ (hfs f hf).2.1
        (fun e => absurd e (hfs f hf).2.1) (fun _ => rfl))]
      simp only [own_run]
    · -- a frame buffer (free before and after each segment), or a location not touched at all
      simp only [own_proj, *]
      exact runCell_loop fun f hf => segment_at client p s f x _ (hfs f hf).2.1
        (fun e => e ▸ (hfs f hf).2.2) (fun e => absurd e h1)
  · simp only [writeFilePlain, callerOps_append,
      callerOps_loop fs fun f => (callerOps_buf ..).trans (callerOps_frameFrom client p s f y), own_proj]
    simp only [own_run]

/-- **`WriteFile`, compressed**, any number of output buffers and frames: all locations distinct, all
buffers free, `c.mu` free, the `flate.Writer` in its pool (server) or parked under `cpsLocker` (client). -/
theorem path_well_owned_writeFileCompressed (window client early : Bool) (p : Pid) (m z r b0 : Buf)
    (mid : List (Buf × Buf)) (fLast : Buf) (h : Heap) (om : Owner) (kz : Option Pid)
    (hnd : (m :: z :: r :: fLast :: b0 :: midBufs mid).Nodup)
    (hm : h.cell m = ⟨om, none⟩) (hw : window = true → om = .guarded)
    (hz : h.cell z = ⟨if client then .guarded else .pool, kz⟩) (hzc : client = true → kz = none)
    (hpool : ∀ x ∈ r :: fLast :: b0 :: midBufs mid, (h.cell x).own = .pool)
    (hearly : early = false → mid = []) :
    WellOwned h (writeFileCompressed window client early p m z r b0 mid fLast) [] := by
  refine (wellOwned_iff _ _ _).mpr ⟨fun x => ?_, fun y => ?_⟩
  · simp only [List.not_mem_nil, if_false]
    exact writeFileCompressed_at window client early p m z r b0 mid fLast x (h.cell x) om kz hnd (fun e => e ▸ hm) hw
      (fun e => e ▸ hz) hzc (hpool x) hearly
  · simp only [writeFileCompressed, wfcPre, wfcPost, frameFrom, bigDeflaterGet_eq, bigDeflaterPut_eq, callerOps_append,
      callerOps_streamFrom, own_proj]
    simp only [own_run]

/-- **A whole idle server connection**: the handshake takes reader and windows from their pools and
parks the compression window under `c.mu`; the end of `ReadLoop` (with `TryLock` succeeding: no writer
in flight) gives all three back. -/
theorem path_well_owned_connection (p : Pid) (rw rd m : Buf) (d : Option Buf) (h : Heap)
    (hwr : rw ≠ rd) (hwm : rw ≠ m) (hrm : rd ≠ m) (hdw : d ≠ some rw) (hdr : d ≠ some rd) (hdm : d ≠ some m)
    (hrw : (h.cell rw).own = .pool) (hrd : (h.cell rd).own = .pool) (hm : h.cell m = ⟨.pool, none⟩)
    (hd : ∀ x, d = some x → (h.cell x).own = .pool) :
    WellOwned h (upgradeServer p rw rd m d ++ readLoopEnd true p rd m d) [] := by
  refine (wellOwned_iff _ _ _).mpr ⟨fun x => ?_, fun y => ?_⟩
  · simp only [upgradeServer, readLoopEnd, reclaimWindow, if_true]
    by_cases h0 : x = rw
    · subst h0; rw [cell_pool_eta hrw]; simp only [own_proj, *]; simp only [own_run]
    by_cases h1 : x = rd
    · subst h1; rw [cell_pool_eta hrd]; simp only [own_proj, *]; simp only [own_run]
    by_cases h2 : x = m
    · subst h2; simp only [own_proj, *]; simp only [own_run]
    by_cases h3 : d = some x
    · rw [cell_pool_eta (hd x h3)]; subst h3; simp only [own_proj, *]; simp only [own_run]
    · simp only [own_proj, *]; simp only [own_run]
  · simp only [upgradeServer, readLoopEnd, reclaimWindow, if_true, own_proj]; simp only [own_run]

/-- **The end of `ReadLoop` when a writer holds `c.mu`** (`TryLock` fails): reader and decompression
window go back, the compression window is left alone — still parked, still guarded by the mutex the
writer holds. -/
theorem path_well_owned_readLoopEnd_busy (p q : Pid) (rd m : Buf) (d : Option Buf) (h : Heap) (krd : Option Pid)
    (hrm : rd ≠ m) (hdr : d ≠ some rd) (hdm : d ≠ some m) (hqp : q ≠ p)
    (hrd : h.cell rd = ⟨.lib p, krd⟩) (hm : h.cell m = ⟨.guarded, some q⟩)
    (hd : ∀ x, d = some x → (h.cell x).own = .lib p) :
    ∃ h', run h (readLoopEnd false p rd m d) = some h' ∧ h'.cell m = h.cell m := by
  refine ⟨⟨fun x => if x = rd ∨ d = some x then ⟨.pool, (h.cell x).held⟩ else h.cell x, h.lent⟩,
    (run_eq_some_iff _ _ _).mpr ⟨fun x => ?_, fun y => ?_⟩, by simp [Ne.symm hrm, hdm]⟩
  · simp only [readLoopEnd, reclaimWindow]
    by_cases h0 : x = rd
    · subst h0; simp only [own_proj, *]; simp only [own_run, true_or]
    by_cases h1 : x = m
    · subst h1; simp only [own_proj, *]; simp only [own_run, runCell_tryLockFail hqp, or_self]
    by_cases h2 : d = some x
    · have := hd x h2
      subst h2; simp only [own_proj, *]; simp only [own_run, this, or_true]
    · simp only [own_proj, *]; simp only [own_run, or_self]
  · simp only [readLoopEnd, reclaimWindow, own_proj]; rfl

/-! ## (2) Interleavings -/

/-- **Concurrent paths.** If two event lists touch disjoint locations (the pool hands a buffer to one
taker at a time: concurrent paths hold distinct incarnations; distinct connections have distinct
mutexes and windows) and each runs without violation from `h`, then EVERY interleaving of them runs
without violation, and ends with each location in the state its own list leaves it in. -/
theorem interleave_well_owned {l1 l2 l : List Ev} {h h1 h2 : Heap} (hi : Interleave l1 l2 l)
    (hd : DisjointLocs l1 l2) (r1 : run h l1 = some h1) (r2 : run h l2 = some h2) :
    ∃ h', run h l = some h' ∧
      (∀ x, h'.cell x = if bufOps x l2 = [] then h1.cell x else h2.cell x) ∧
      (∀ y, h'.lent y = if callerOps y l2 = [] then h1.lent y else h2.lent y) := by
  obtain ⟨c1, d1⟩ := (run_eq_some_iff _ _ _).mp r1
  obtain ⟨c2, d2⟩ := (run_eq_some_iff _ _ _).mp r2
  refine ⟨{ cell := fun x => if bufOps x l2 = [] then h1.cell x else h2.cell x,
            lent := fun y => if callerOps y l2 = [] then h1.lent y else h2.lent y }, ?_, fun _ => rfl, fun _ => rfl⟩
  refine (run_eq_some_iff _ _ _).mpr ⟨fun x => ?_, fun y => ?_⟩
  · by_cases hx : bufOps x l2 = []
    · simp only [hx, if_true, hi.bufOps_left x hx]; exact c1 x
    · have hx1 : bufOps x l1 = [] := (hd.cases_buf x).resolve_right hx
      simp only [hx, if_false, hi.symm.bufOps_left x hx1]; exact c2 x
  · by_cases hy : callerOps y l2 = []
    · simp only [hy, if_true, hi.callerOps_left y hy]; exact d1 y
    · have hy1 : callerOps y l1 = [] := (hd.cases_caller y).resolve_right hy
      simp only [hy, if_false, hi.symm.callerOps_left y hy1]; exact d2 y

/-- … hence any number of concurrent paths, on one or many connections, in any interleaving. -/
theorem interleaveN_well_owned {ls : List (List Ev)} {l : List Ev} {h : Heap} (hi : InterleaveN ls l)
    (hd : ls.Pairwise DisjointLocs) (hr : ∀ l0 ∈ ls, (run h l0).isSome) : (run h l).isSome := by
  induction hi with
  | nil => rfl
  | cons hi1 hi2 ih =>
    rw [List.pairwise_cons] at hd
    obtain ⟨h1, e1⟩ := Option.isSome_iff_exists.mp (hr _ List.mem_cons_self)
    obtain ⟨h2, e2⟩ := Option.isSome_iff_exists.mp (ih hd.2 fun l0 hl0 => hr l0 (by simp [hl0]))
    have hd' : DisjointLocs _ _ := fun e1 he1 e2 he2 => by
      obtain ⟨l0, hl0, hm⟩ := hi1.mem e2 he2
      exact hd.1 l0 hl0 e1 he1 e2 hm
    obtain ⟨h', e, _⟩ := interleave_well_owned hi2 hd' e1 e2
    simp [e]

/-- **Concurrent paths that share mutex-guarded memory** — paths on the SAME connection (`c.mu` and
the compression window), or on connections that were given the same `deflater` (its scratch buffer
under `dpsLocker`, its `flate.Writer` under `cpsLocker`). If each list runs without violation from
`h`, every location common to both is used in critical sections only (`Bracketed`) and its mutex is
free in `h`, and no caller payload is common, then NO interleaving reaches a violation: the only way
an interleaving can fail to be executable is by asking for a mutex that is held, which is not a
schedule (`runB … = .blocked`; assumption: a `sync.Mutex` excludes). -/
theorem interleave_shared_mutex_well_owned {l1 l2 l : List Ev} {h : Heap} (hi : Interleave l1 l2 l)
    (hbuf : ∀ x, bufOps x l1 = [] ∨ bufOps x l2 = [] ∨
      ((h.cell x).held = none ∧ Bracketed (h.cell x).own (bufOps x l1) ∧ Bracketed (h.cell x).own (bufOps x l2)))
    (hcal : ∀ y, callerOps y l1 = [] ∨ callerOps y l2 = [])
    (r1 : (run h l1).isSome) (r2 : (run h l2).isSome) : runB h l ≠ .violation := by
  intro hv
  obtain ⟨h1, e1⟩ := Option.isSome_iff_exists.mp r1
  obtain ⟨h2, e2⟩ := Option.isSome_iff_exists.mp r2
  obtain ⟨a1, b1⟩ := (run_eq_some_iff _ _ _).mp e1
  obtain ⟨a2, b2⟩ := (run_eq_some_iff _ _ _).mp e2
  rcases runB_violation hv with ⟨x, hx⟩ | ⟨y, hy⟩
  · rcases hbuf x with e | e | ⟨hh, hb1, hb2⟩
    · rw [hi.symm.bufOps_left x e, runCellB_of_runCell (a2 x)] at hx; cases hx
    · rw [hi.bufOps_left x e, runCellB_of_runCell (a1 x)] at hx; cases hx
    · exact bracketed_interleave (hi.at_buf x) (h.cell x) rfl (Or.inl ⟨hh, hb1, hb2⟩) hx
  · rcases hcal y with e | e
    · rw [hi.symm.callerOps_left y e, b2 y] at hy; cases hy
    · rw [hi.callerOps_left y e, b1 y] at hy; cases hy

/-- instance: two `doWrite` calls on one connection, in any interleaving: the window is never used by
one while the other holds it, the frame buffers are never mixed up -/
theorem concurrent_writers_same_connection (k1 w1 cl1 k2 w2 cl2 : Bool) (p1 p2 : Pid) (c1 c2 : CBuf)
    (m z f1 f2 : Buf) (h : Heap) (om : Owner) (l : List Ev)
    (hi : Interleave (writeFrame k1 w1 cl1 p1 c1 m z f1) (writeFrame k2 w2 cl2 p2 c2 m z f2) l)
    (hc : c1 ≠ c2) (hmz : m ≠ z) (hmf1 : m ≠ f1) (hmf2 : m ≠ f2) (hzf1 : z ≠ f1) (hzf2 : z ≠ f2) (hff : f1 ≠ f2)
    (hl1 : h.lent c1 = none) (hl2 : h.lent c2 = none)
    (hm : h.cell m = ⟨om, none⟩) (hw : w1 = true ∨ w2 = true → om = .guarded)
    (hz : h.cell z = ⟨.guarded, none⟩) (hf1 : (h.cell f1).own = .pool) (hf2 : (h.cell f2).own = .pool) :
    runB h l ≠ .violation := by
  obtain ⟨_, r1, _⟩ := path_well_owned_writeFrame k1 w1 cl1 p1 c1 m z f1 h om hmz hmf1 hzf1 hl1 hm
    (fun e => hw (Or.inl e)) hz hf1
  obtain ⟨_, r2, _⟩ := path_well_owned_writeFrame k2 w2 cl2 p2 c2 m z f2 h om hmz hmf2 hzf2 hl2 hm
    (fun e => hw (Or.inr e)) hz hf2
  refine interleave_shared_mutex_well_owned hi (fun x => ?_) (fun y => ?_) (by simp [r1]) (by simp [r2])
  · by_cases hxm : x = m
    · subst hxm; rw [hm]
      exact Or.inr (Or.inr ⟨rfl, writeFrame_mu_bracketed _ _ _ _ _ _ _ _ _ hmz hmf1 fun e => hw (Or.inl e),
        writeFrame_mu_bracketed _ _ _ _ _ _ _ _ _ hmz hmf2 fun e => hw (Or.inr e)⟩)
    by_cases hxz : x = z
    · subst hxz; rw [hz]
      exact Or.inr (Or.inr ⟨rfl, writeFrame_writer_bracketed _ _ _ _ _ _ _ _ hmz hzf1,
        writeFrame_writer_bracketed _ _ _ _ _ _ _ _ hmz hzf2⟩)
    by_cases hx1 : x = f1
    · subst hx1; exact Or.inr (Or.inl (writeFrame_at_other _ _ _ _ _ _ _ _ _ hxm hxz hff))
    · exact Or.inl (writeFrame_at_other _ _ _ _ _ _ _ _ _ hxm hxz hx1)
  · by_cases hy : y = c1
    · subst hy; exact Or.inr (writeFrame_callerOps_other _ _ _ _ _ _ _ _ _ hc)
    · exact Or.inl (writeFrame_callerOps_other _ _ _ _ _ _ _ _ _ hy)

/-- instance: two connections sharing one deflater (`deflaterPool.Select`), each inflating a message:
the shared scratch buffer is never visible to both -/
theorem concurrent_readers_shared_deflater (m1 n1 m2 n2 : Bool) (p1 p2 : Pid) (a1 b1 a2 b2 s : Buf)
    (d1 d2 : Option Buf) (h : Heap) (l : List Ev)
    (hi : Interleave (readSingle true m1 n1 p1 a1 b1 s d1) (readSingle true m2 n2 p2 a2 b2 s d2) l)
    (hnd : [a1, b1, a2, b2, s].Nodup)
    (hd1 : d1 ≠ some a1 ∧ d1 ≠ some b1 ∧ d1 ≠ some a2 ∧ d1 ≠ some b2 ∧ d1 ≠ some s)
    (hd2 : d2 ≠ some a1 ∧ d2 ≠ some b1 ∧ d2 ≠ some a2 ∧ d2 ≠ some b2 ∧ d2 ≠ some s)
    (hdd : ∀ x, d1 = some x → d2 ≠ some x)
    (hpool : ∀ x ∈ [a1, b1, a2, b2], (h.cell x).own = .pool) (hs : h.cell s = ⟨.guarded, none⟩)
    (hw1 : ∀ x, d1 = some x → (h.cell x).own = .lib p1) (hw2 : ∀ x, d2 = some x → (h.cell x).own = .lib p2) :
    runB h l ≠ .violation := by
  simp only [List.nodup_cons, List.mem_cons, List.not_mem_nil, or_false, not_or, List.nodup_nil, and_true] at hnd
  obtain ⟨⟨n12, n13, n14, n1s⟩, ⟨n23, n24, n2s⟩, ⟨n34, n3s⟩, n4s, _⟩ := hnd
  obtain ⟨d1a1, d1b1, d1a2, d1b2, d1s⟩ := hd1
  obtain ⟨d2a1, d2b1, d2a2, d2b2, d2s⟩ := hd2
  obtain ⟨_, r1, _⟩ := path_well_owned_readSingle true m1 n1 p1 a1 b1 s d1 h n12 n1s n2s d1a1 d1b1 d1s
    (hpool a1 (by simp)) (hpool b1 (by simp)) hs hw1
  obtain ⟨_, r2, _⟩ := path_well_owned_readSingle true m2 n2 p2 a2 b2 s d2 h n34 n3s n4s d2a2 d2b2 d2s
    (hpool a2 (by simp)) (hpool b2 (by simp)) hs hw2
  refine interleave_shared_mutex_well_owned hi (fun x => ?_) (fun y => Or.inl (readSingle_callerOps _ _ _ _ _ _ _ _ y))
    (by simp [r1]) (by simp [r2])
  by_cases hxs : x = s
  · subst hxs; rw [hs]
    exact Or.inr (Or.inr ⟨rfl, readSingle_bracketed _ _ _ _ _ _ _ n1s n2s d1s,
      readSingle_bracketed _ _ _ _ _ _ _ n3s n4s d2s⟩)
  · by_cases hx1 : x = a1 ∨ x = b1 ∨ d1 = some x
    · -- a location of the first reader: the second does not touch it
      rcases hx1 with rfl | rfl | e
      · exact Or.inr (Or.inl (readSingle_at_other _ _ _ _ _ _ _ _ _ n13 n14 hxs d2a1))
      · exact Or.inr (Or.inl (readSingle_at_other _ _ _ _ _ _ _ _ _ n23 n24 hxs d2b1))
      · exact Or.inr (Or.inl (readSingle_at_other _ _ _ _ _ _ _ _ _ (fun e' => d1a2 (e' ▸ e))
          (fun e' => d1b2 (e' ▸ e)) hxs (hdd x e)))
    · simp only [not_or] at hx1
      exact Or.inl (readSingle_at_other _ _ _ _ _ _ _ _ _ hx1.1 hx1.2.1 hxs hx1.2.2)

/-! ## (3) Delivered data and caller payloads -/

/-- **Delivered data stays untouched until the application closes it.** In ANY run without violation
(any paths, any interleaving), between `handoff b` and the next `appClose b` no event of the library
touches `b`: no read, no write, no put, no second delivery, and no path can take it from the pool. -/
theorem delivered_untouched_until_close {h h' : Heap} {pre mid post : List Ev} {b : Buf} {p : Pid}
    (hr : run h (pre ++ Ev.handoff b p :: mid ++ post) = some h') (hn : Ev.appClose b ∉ mid) :
    ∀ op, Ev.buf b op ∈ mid → op.libTouch = false := by
  have hb := ((run_eq_some_iff _ _ _).mp hr).1 b
  -- at `b` the run splits into `pre`, the handoff (`h2`, leaving the cell `c2`), `mid` (`h3`) and `post`
  simp only [bufOps_append, bufOps_self, runCell_append, runCell_cons, Option.bind_eq_some_iff] at hb
  obtain ⟨_, ⟨_, -, c2, h2, h3⟩, -⟩ := hb
  have hown : c2.own = .app := by
    simp only [BOp.apply] at h2
    split at h2 <;> simp at h2
    subst h2; rfl
  have := runCell_app hown (fun hm => hn (mem_bufOps_iff.mp hm)) h3
  exact fun op hop => this.2 op (mem_bufOps_iff.mpr hop)

/-- **A caller's payload is never written**, in any run without violation. -/
theorem caller_payload_never_written {h h' : Heap} {l : List Ev} (hr : run h l = some h') (c : CBuf) (p : Pid) :
    Ev.libWriteCaller c p ∉ l := fun hm =>
  runLent_no_write (((run_eq_some_iff _ _ _).mp hr).2 c) p (mem_callerOps_iff.mpr hm)

/-- **A caller's payload is not looked at after the call is over** (`callerReturn`), until the
application passes it to another call. -/
theorem caller_payload_unread_after_return {h h' : Heap} {pre mid post : List Ev} {c : CBuf} {p : Pid}
    (hr : run h (pre ++ Ev.callerReturn c p :: mid ++ post) = some h') (hn : ∀ q, Ev.callerLend c q ∉ mid) :
    ∀ op, Ev.caller c op ∉ mid := by
  -- from the heap after the return, where the payload is not lent, this is `caller_unread_before_lend`
  rw [List.append_assoc, run_append, Option.bind_eq_some_iff] at hr
  obtain ⟨_, -, hr⟩ := hr
  rw [List.cons_append, run_cons, Option.bind_eq_some_iff] at hr
  obtain ⟨h1, hs, hr⟩ := hr
  refine caller_unread_before_lend hr ?_ hn
  simp only [step, COp.apply] at hs
  split at hs <;> cases hs
  exact upd_get _ _ _

/-- A well-owned list leaves nothing in the hands of the library and never writes a caller payload. (That it
reads one only while it is lent is what `caller_payload_unread_after_return` says of its run.) -/
theorem wellOwned_leaves_nothing {h : Heap} {l : List Ev} {dl : List Buf} (hw : WellOwned h l dl) :
    ∃ h', run h l = some h' ∧
      (∀ x q, (h'.cell x).own = .lib q → (h.cell x).own = .lib q) ∧
      (∀ x, (h'.cell x).held = (h.cell x).held) ∧
      (∀ c p, Ev.libWriteCaller c p ∉ l) := by
  obtain ⟨h', hr, _, hc⟩ := hw
  refine ⟨h', hr, fun x q hq => ?_, fun x => ?_, fun c p => caller_payload_never_written hr c p⟩
  · rw [hc x] at hq; split at hq <;> simp_all
  · rw [hc x]; split <;> rfl

/-! ## (4) The broadcaster -/

/-- **Shared frames are released exactly once.** For every sequence of `Broadcast`s, finished sends and
`Close` that respects the API ("call Close after all the Broadcasts have been completed", once) — any
number of connections, any interleaving — `doClose` has run exactly once if `Close` has been called
and every queued send has finished, and not at all otherwise: never before `Close`, never while a send
is pending, never twice. (Every prefix of such a sequence is such a sequence: the statement holds at
every moment.) The counter is `MaxInt32 + pending` before `Close` and `pending` after. -/
theorem broadcaster_release_once (p : Pid) (c : CBuf) (f0 f1 : Buf) (acts : List BAct) (s : BC)
    (hapi : ApiOk acts) (hr : (BC.init p c f0 f1).run acts = some s) :
    s.released = (if s.closed = true ∧ s.pending = [] then 1 else 0) ∧
    s.state = (if s.closed then 0 else maxInt32) + s.pending.length := by
  have := BC.inv_run _ s acts (BC.inv_init p c f0 f1) (by simpa [BC.Good, BC.init] using hapi) hr
  exact ⟨this.rel, this.counter⟩

/-- … and the events the broadcaster performs never violate ownership: every pending send reads the
frame while the broadcaster still owns it, the payload is read only until `doClose`, and afterwards
the frames are back in the pool and the payload is returned. -/
theorem broadcaster_well_owned (p : Pid) (c : CBuf) (f0 f1 : Buf) (acts : List BAct) (s : BC) (h0 : Heap)
    (hne : f0 ≠ f1) (hc : h0.lent c = none) (h0f : (h0.cell f0).own = .pool) (h1f : (h0.cell f1).own = .pool)
    (hapi : ApiOk acts) (hr : (BC.init p c f0 f1).run acts = some s) :
    ∃ h, run h0 s.trace = some h ∧
      (s.closed = true ∧ s.pending = [] →
        h.lent c = none ∧ (h.cell f0).own = .pool ∧ (h.cell f1).own = .pool) := by
  obtain ⟨h, e1, e2⟩ := BC.trace_run p c f0 f1 acts s h0 hne hc h0f h1f hapi hr
  obtain ⟨hrel, _⟩ := broadcaster_release_once p c f0 f1 acts s hapi hr
  obtain ⟨c1, c2, c3, c4⟩ := BC.consts_run hr
  simp only [BC.init] at c1 c2 c3 c4
  refine ⟨h, e1, fun hdone => ?_⟩
  have hr1 : s.released = 1 := by rw [hrel, if_pos hdone]
  have l1 := e2.lent; have l2 := e2.own false; have l3 := e2.own true
  simp only [BC.frameOf, hr1, c1, c2, c3, c4] at l1 l2 l3
  exact ⟨by simpa using l1, by simpa using l2, by simpa using l3⟩

/-- **Violating the precondition is API misuse, and it does lead to a double release**: a `Broadcast`
after a `Close` that found nothing pending re-uses the frame that `doClose` has already put back
(whoever took it from the pool meanwhile shares it), and the send that follows runs `doClose` a second
time. Witness: `Broadcast(0); send 0 done; Close; Broadcast(1); send 1 done`. -/
theorem broadcaster_misuse_double_release :
    let acts := [BAct.bcast 0 false, .sendDone 0, .close, .bcast 1 false, .sendDone 1]
    ¬ ApiOk acts ∧
    ((BC.init 1 0 0 1).run acts).map (·.released) = some 2 ∧
    ((BC.init 1 0 0 1).run acts).map (fun s => (run Heap.empty s.trace).isNone) = some true := by
  refine ⟨by simp [ApiOk, BAct.isBcast], by decide, by decide⟩

/-! ## (5) Teardown concurrent with writers in flight -/

/-- **The compression window is reclaimed only when no writer is in flight.** Over EVERY interleaving,
at event granularity, of any number of `doWrite` calls on a server connection, the CAS that closes it,
and the reclamation at the end of `ReadLoop` (`TD`):

* the operations performed on the window location (`c.mu` + `cpsWindow.dict`) never violate the
  protocol — no writer uses the window without holding `c.mu`, none uses it after it went back to the
  pool, it is put at most once;
* when the read loop is about to put the window it holds `c.mu` itself, and no writer is between its
  lock and its unlock;
* conversely a writer between lock and unlock is the holder, so that `TryLock` fails and the window is
  left alone (`reclaimWindow false` = `tryLockFail`);
* once the window is back in the pool, the writers still in flight have nothing left to do with that
  location but their unlock (they found the connection closed: `writeFrameClosed`). -/
theorem reclaim_only_when_idle (m : Buf) (r : Pid) (acts : List TAct) (s : TD)
    (hr : (TD.init m r).run acts = some s) :
    runCell ⟨.guarded, none⟩ (bufOps m s.trace) = some ⟨if s.reclaimed then .pool else .guarded, s.holder⟩ ∧
    (∀ rest, s.reader = some (Ev.put m r :: rest) →
      s.holder = some r ∧ ∀ q l, s.thr q = .running l → bufOps m l = []) ∧
    (∀ q l, s.thr q = .running l → bufOps m l ≠ [] → s.holder = some q ∧ q ≠ r) ∧
    (s.reclaimed = true → ∀ q l, s.thr q = .running l → ∀ op ∈ bufOps m l, op = .unlock q) := by
  have hi := TD.inv_run _ s acts (TD.inv_init m r) hr
  obtain ⟨rfl, rfl⟩ : s.m = m ∧ s.r = r := TD.consts_run _ s acts hr
  refine ⟨hi.cell, fun rest hrd => ?_, fun q l hq hne => ?_, fun hrec q l hq op hop => ?_⟩
  · have := hi.reader
    simp only [hrd] at this
    rcases this.2 with ⟨_, hh, _⟩ | ⟨hl, _, _⟩ | ⟨hl, _⟩
    · refine ⟨hh, fun q l hq => ?_⟩
      obtain ⟨h1, h2⟩ := hi.running q l hq
      have : s.holder ≠ some q := by rw [hh]; simp [Ne.symm h1]
      simpa [this] using h2
    · simp at hl
    · simp at hl
  · obtain ⟨h1, h2⟩ := hi.running q l hq
    by_cases hh : s.holder = some q
    · exact ⟨hh, h1⟩
    · simp only [hh, if_false] at h2; exact absurd h2 hne
  · obtain ⟨_, h2⟩ := hi.running q l hq
    by_cases hh : s.holder = some q
    · simp only [hh, if_true] at h2
      rw [h2.2 hrec] at hop; simpa using hop
    · simp only [hh, if_false] at h2; rw [h2] at hop; simp at hop

/-! ## Non-vacuity: concrete runs, and what a violation looks like -/

/-- a freshly upgraded idle connection: window `100` parked under `c.mu`, deflater scratch `102` and
shared writer `103` parked, decompression window `101` and reader `104` held by the read loop `1` -/
private def hConn : Heap :=
  { cell := fun b =>
      if b = 100 ∨ b = 102 ∨ b = 103 then ⟨.guarded, none⟩ else if b = 101 ∨ b = 104 then ⟨.lib 1, none⟩ else {}
    lent := fun _ => none }

example : (run hConn (readSingle true true true 1 0 1 102 (some 101))).isSome := by decide
example : (run hConn (readFragments true true false 1 50 [0, 1, 2] 3 4 102 (some 101))).isSome := by decide
example : (run hConn (writeFrame true true false 2 0 100 103 0)).isSome := by decide
example : (run hConn (readLoopEnd true 1 104 100 (some 101))).isSome := by decide
-- a reader, a writer on the same connection and a WriteFile on another one, interleaved
example : (run hConn ([Ev.get 0 1, .callerLend 0 2, .lock 100 2, .libWrite 0 1, .get 1 2, .lock 200 3, .get 2 3,
    .libWrite 1 2, .libRead 0 1, .handoff 0 1, .libRead 1 2, .put 2 3, .appRead 0, .put 1 2, .unlock 100 2,
    .unlock 200 3, .callerReturn 0 2, .appClose 0])).isSome := by decide
-- the hook projection of a path (what suite `own trace single-compressed` compares with the real code)
example : project "s" (fun b => if b < 50 then .bin else .heap) (readSingle true true true 1 0 1 102 (some 101)) =
    "s:get:b0,s:get:b1,s:put:b1,s:put:b0" := by decide

-- two writers on one connection: a serial schedule runs; a schedule in which the second asks for c.mu while the
-- first holds it is not a schedule; using the window without the lock would be a violation
example : (match runB hConn (writeFrame true true false 2 0 100 103 0 ++ writeFrame true true false 3 1 100 103 1) with
    | .ok _ => true | _ => false) = true := by decide
example : (match runB hConn [.callerLend 0 2, .lock 100 2, .callerLend 1 3, .lock 100 3] with
    | .blocked => true | _ => false) = true := by decide
example : (match runB hConn [.callerLend 0 2, .lock 100 2, .callerLend 1 3, .libWrite 100 3] with
    | .violation => true | _ => false) = true := by decide

-- violations: use after put; double put; two takers of one buffer
example : (run hConn [.get 0 1, .put 0 1, .libRead 0 1]).isNone := by decide
example : (run hConn [.get 0 1, .put 0 1, .put 0 1]).isNone := by decide
example : (run hConn [.get 0 1, .get 0 2]).isNone := by decide
-- forgetting `closer.Data = nil`: the frame buffer is delivered AND put when readMessage returns
example : (run hConn [.get 0 1, .libWrite 0 1, .handoff 0 1, .appRead 0, .put 0 1]).isNone := by decide
-- the library looking at a message the application has not closed yet
example : (run hConn [.get 0 1, .libWrite 0 1, .handoff 0 1, .libRead 0 1]).isNone := by decide
-- masking the caller's payload in place; reading it after the call has returned
example : (run hConn [.callerLend 0 2, .libWriteCaller 0 2]).isNone := by decide
example : (run hConn [.callerLend 0 2, .libReadCaller 0 2, .callerReturn 0 2, .libReadCaller 0 2]).isNone := by decide
-- the reclamation as it was before the `TryLock` fix: the window is put while a writer uses it
example : (run hConn [.lock 100 2, .libRead 100 2, .put 100 1]).isNone := by decide
-- a writer that would not re-check the closed flag under the lock: window used after the reclamation
example : (run hConn [.lock 100 1, .put 100 1, .unlock 100 1, .lock 100 2, .libRead 100 2]).isNone := by decide

-- teardown schedules: a stalled writer makes TryLock fail; after a successful reclamation a late writer
-- takes the closed path
private def w2 : Writer := { p := 2, c := 0, z := 103, f := 0, compressed := true, client := false }
example : ((TD.init 100 1).run [.spawn w2, .wLock 2, .wStep 2, .setClosed, .rTry]).map (·.trace.getLast?) =
    some (some (Ev.tryLockFail 100 1)) := by decide
example : ((TD.init 100 1).run [.spawn w2, .setClosed, .rTry, .rStep, .rStep, .wLock 2, .wStep 2, .wStep 2]).map
    (fun s => (s.reclaimed, s.trace.drop 1)) =
    some (true, [Ev.lock 100 1, .put 100 1, .unlock 100 1, .lock 100 2, .unlock 100 2, .callerReturn 0 2]) := by decide

end Own
