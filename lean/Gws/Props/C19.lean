import Gws.Lemmas.Conc.Map
/-!
# C19 — session storage and ConcurrentMap are linearizable maps

Statement (properties.jsonl): concurrent Load, Store, Delete, Len and Range on a connection's
session storage and on the exported concurrent map behave like atomic operations on one map: every
history of operations on a key is linearizable, Len always lies within the bounds implied by the
operations overlapping it, and Range visits every entry that is present throughout exactly once and
stops when its callback says so.

Shape of the proof.  The model (`Gws.Model.Conc.Map`) is a transition system whose actions are the
critical sections of the code; a list of actions is an interleaving of any number of goroutines, so
"for every `tr : List Act`" is "for every schedule".  There is no bound on the length of a history,
the number of keys, the number of concurrent `Len`/`Range` calls or the shard count, and the hash
function is arbitrary.

**Assumed, not proved** (trusted base): a region between `Lock` and `Unlock` of one mutex is atomic
with respect to the other regions of that mutex.  The suite `cmapconc` samples real concurrent
histories against the same register specification as a check of that assumption.
-/

namespace CMap

/-- `internal.ToBinaryNumber n` is a power of two, at least `n`, and the smallest such (for
`n ≥ 1`); in particular the model's fuel never runs out. -/
theorem toBinaryNumber_pow2 (n : Nat) :
    (∃ m, toBinaryNumber n = 2 ^ m) ∧ n ≤ toBinaryNumber n ∧ (1 ≤ n → toBinaryNumber n < 2 * n) :=
  toBinaryNumber_spec n

/-- the arithmetic of `hashCode & (c.num - 1)` in `GetSharding`, `c.num` being a power of two -/
theorem and_mask_eq_mod (x m : Nat) : x &&& (2 ^ m - 1) = x % 2 ^ m :=
  Nat.and_two_pow_sub_one_eq_mod x m

/-- **No out-of-bounds shard access.**  For every requested shard count (0 = default 16, powers of
two, anything else) and every hash function, `hashCode & (num - 1)` is `hashCode mod num` and is a
valid index into the `num` shards of every well-formed state. -/
theorem shard_index_in_range (c : Cfg) (k : Nat) :
    c.idx k = c.hash k % c.num ∧ c.idx k < c.num ∧ ∀ s, WF c s → c.idx k < s.shards.length :=
  ⟨c.idx_eq_mod k, c.idx_lt k, fun _ h => h.idx_lt k⟩

/-- `NewConcurrentMap` establishes the invariant and every atomic action preserves it, hence it
holds in every state reachable by any interleaving. -/
theorem wf_invariant (c : Cfg) :
    WF c (State.init c) ∧ ∀ s tr s', WF c s → run c s tr = some s' → WF c s' :=
  ⟨wf_init c, fun _ tr _ h hr => wf_run c tr h hr⟩

/-- `size` (the sum of the shards' `len`, what `Len` adds up) is honest: it is the number of keys
the abstract map holds. -/
theorem size_is_card (c : Cfg) (s : State) (hwf : WF c s) :
    ∃ keys : List Nat, keys.Nodup ∧ keys.length = s.size ∧ ∀ k, k ∈ keys ↔ abs c s k ≠ none := by
  have hsh : ∀ j (h : j < s.shards.length), s.shards[j] = s.shard j := fun j h => by
    simp [State.shard, List.getD_eq_getElem?_getD, h]
  have hmem : ∀ m ∈ s.shards, ∃ j, m = s.shard j := fun m hm =>
    let ⟨j, hj, e⟩ := List.mem_iff_getElem.1 hm
    ⟨j, e ▸ hsh j hj⟩
  refine ⟨(s.shards.map Shard.keys).flatten, ?_, ?_, fun k => ?_⟩
  · -- keys of one shard differ by `WF.nodup`, keys of two shards because they hash to different indices
    refine List.pairwise_flatten.2 ⟨fun ks hks => ?_,
      List.pairwise_map.2 (List.pairwise_iff_getElem.2 fun i j hi hj hij x hx y hy hxy => ?_)⟩
    · obtain ⟨m, hm, rfl⟩ := List.mem_map.1 hks
      obtain ⟨j, rfl⟩ := hmem m hm
      exact hwf.nodup j
    · rw [hsh] at hx hy
      exact Nat.ne_of_lt hij ((hwf.home i x hx).symm.trans (hxy ▸ hwf.home j y hy))
  · simp only [List.length_flatten, List.map_map, Function.comp_def, ← Shard.size_eq, State.size]
  · -- a key is looked for in the shard it hashes to, and can be nowhere else
    show _ ↔ (s.shard (c.idx k)).load k ≠ none
    rw [← Shard.mem_keys_iff, List.mem_flatten]
    constructor
    · rintro ⟨ks, hks, hk⟩
      obtain ⟨m, hm, rfl⟩ := List.mem_map.1 hks
      obtain ⟨j, rfl⟩ := hmem m hm
      rwa [hwf.home j k hk]
    · intro hk
      exact ⟨_, List.mem_map.2 ⟨_, List.getElem_mem (hwf.idx_lt k), rfl⟩, by rwa [hsh]⟩

/-- `Load` returns what the plain map returns. -/
theorem load_refines (c : Cfg) (s : State) (k : Nat) : s.load c k = abs c s k := rfl

/-- `Store` commutes with the abstraction: it updates exactly `k` in the plain map. -/
theorem store_refines (c : Cfg) (s : State) (k v : Nat) (hwf : WF c s) :
    abs c (s.store c k v) = (abs c s).store k v :=
  (store_ok c s k v hwf).2

/-- `Delete` commutes with the abstraction: it removes exactly `k` from the plain map. -/
theorem delete_refines (c : Cfg) (s : State) (k : Nat) (hwf : WF c s) :
    abs c (s.delete c k) = (abs c s).delete k :=
  (delete_ok c s k hwf).2

/-- **Linearizability of the single-section operations.**  For every interleaving `tr` of atomic
sections (of any length, over any keys, with any number of `Len` and `Range` calls in progress) the
values returned by the `Load`s are those obtained by running the plain map sequentially in the
order of the critical sections, and the final contents agree too.  The linearization point of an
operation is its critical section, which lies between its call and its return; so in particular
every per-key history is a history of an atomic register. -/
theorem linearizable_single_section (c : Cfg) (tr : List Act) (s s' : State) (hwf : WF c s)
    (hrun : run c s tr = some s') :
    loads c s tr = Spec.loads (abs c s) tr ∧ abs c s' = Spec.run (abs c s) tr := by
  induction tr generalizing s with
  | nil => cases hrun; exact ⟨rfl, rfl⟩
  | cons a tr ih =>
    obtain ⟨s1, hst, hrun⟩ := run_cons_some c hrun
    obtain ⟨h1, h2⟩ := ih s1 (wf_step c hwf hst) hrun
    have ha := (step_ok c hwf hst).2
    simp only [loads, hst]
    rw [h1, h2, ha]
    cases a <;> simp [Spec.loads, Spec.run, load_eq_abs]

/-- **Len bounds.**  A `Len` call (`lenStart id`) whose `num` sections are interleaved with
arbitrary other actions `tr` — stores, deletes, loads, sections of other `Len` and `Range` calls —
and whose loop has ended with result `r` satisfies

  `size at the call − #(overlapping deletes that removed a key) ≤ r ≤
   size at the call + #(overlapping stores that added a key)`.

(`Len` is *not* atomic; see the example below, where it returns a size the map never had.) -/
theorem len_bounds (c : Cfg) (s s' : State) (id : Nat) (tr : List Act) (r : Nat) (hwf : WF c s)
    (hrun : run c s (.lenStart id :: tr) = some s') (hres : lenResult c s' id = some r) :
    s.size - removes c s (.lenStart id :: tr) ≤ r ∧ r ≤ s.size + inserts c s (.lenStart id :: tr) := by
  obtain ⟨_, hst, _⟩ := run_cons_some c hrun
  have h := lenGoal_run c id _ hwf hrun
  rw [State.lenGoal_of_none (step_inv c hst).1, lenGoal_of_result c (wf_run c _ hwf hrun) hres] at h
  omega

/-- **Range visits.**  A `Range(cb)` call (`rangeStart id cb`) whose per-shard sections are
interleaved with arbitrary other actions `tr` satisfies, at every moment `s'` after the call:

1. no key has been passed to the callback twice;
2. every callback invocation that was followed by another invocation had returned `true` — i.e.
   after the callback returns `false` no further call is made, neither in the same shard nor in a
   later one — and once it has returned `false` (`go = false`) no further section of this call is
   enabled;
3. if the loop has ended and the callback never returned `false`, every entry `k ↦ v` that was
   present with that value in every state from the call to `s'` has been passed to the callback, and
   its key exactly once.

The iteration order inside a shard is arbitrary (the `order` argument of each `rangeStep`). -/
theorem range_visits (c : Cfg) (s s' : State) (id : Nat) (cb : List Entry → Bool) (tr : List Act)
    (rc : RangeCall) (hwf : WF c s) (hrun : run c s (.rangeStart id cb :: tr) = some s')
    (hrc : s'.ranges id = some rc) :
    (rc.log.map (·.1)).Nodup ∧
    ((∀ i, i + 1 < rc.log.length → cb (rc.log.take (i + 1)) = true) ∧
      (rc.go = false → rc.log ≠ [] ∧ cb rc.log = false ∧ ∀ order, step c s' (.rangeStep id order) = none)) ∧
    (rc.next = c.num → rc.go = true → ∀ k v, stable c k v s (.rangeStart id cb :: tr) →
      (k, v) ∈ rc.log ∧ (rc.log.map (·.1)).count k = 1) := by
  obtain ⟨s1, hst, hrun'⟩ := run_cons_some c hrun
  obtain ⟨_, rfl⟩ := step_inv c hst
  -- the call has just started: empty log, `go = true`
  obtain ⟨rc', hr', rfl, hinv, hq⟩ := range_track c id tr (wf_step c hwf hst) (upd_self _ _ _)
    ⟨List.nodup_nil, nofun, nofun, fun h => absurd rfl h, fun _ => rfl⟩ hrun'
  obtain rfl : rc = rc' := Option.some.inj (hrc.symm.trans hr')
  refine ⟨hinv.nodup, ⟨hinv.calls, fun hgo => ?_⟩, fun hn hgo k v hstab => ?_⟩
  · have ⟨hne, hcb⟩ := Answered.stopped ⟨hinv.calls, hinv.last, hinv.empty⟩ hgo
    exact ⟨hne, hcb, fun order => by simp [step, hrc, hgo]⟩
  · simp only [stable, hst] at hstab
    have hmem : (k, v) ∈ rc.log := hq k v hstab.2 nofun hgo (hn ▸ c.idx_lt k)
    exact ⟨hmem, by rw [hinv.nodup.count, if_pos (List.mem_map_of_mem hmem)]⟩

/-- the same with a callback that never asks to stop: once the loop has ended, every entry present
throughout has been passed exactly once -/
theorem range_visits_all (c : Cfg) (s s' : State) (id : Nat) (cb : List Entry → Bool) (tr : List Act)
    (rc : RangeCall) (hwf : WF c s) (hrun : run c s (.rangeStart id cb :: tr) = some s')
    (hrc : s'.ranges id = some rc) (hcb : ∀ l, cb l = true) (hdone : rangeDone c s' id = true)
    (k v : Nat) (hstab : stable c k v s (.rangeStart id cb :: tr)) :
    (k, v) ∈ rc.log ∧ (rc.log.map (·.1)).count k = 1 := by
  obtain ⟨_, ⟨_, hstop⟩, hall⟩ := range_visits c s s' id cb tr rc hwf hrun hrc
  have hgo : rc.go = true := by
    cases hg : rc.go with
    | true => rfl
    | false => have := (hstop hg).2.1; rw [hcb] at this; simp at this
  simp only [rangeDone, hrc, hgo, Bool.not_true, Bool.or_false, beq_iff_eq] at hdone
  exact hall hdone hgo k v hstab

-- shard counts used by the correspondence suite: default, 1, 2, 3→4, 16, 100→128
example : [0, 1, 2, 3, 16, 100].map (fun n => (Cfg.mk id n).num) = [16, 1, 2, 4, 16, 128] := by decide

-- `Len` is not atomic: with keys 0 and 1 in different shards the map holds one entry at every
-- moment, yet an overlapping delete + store make `Len` return 2 = size + #inserts (upper bound tight)
example :
    let c : Cfg := ⟨id, 2⟩
    (run c ((State.init c).store c 0 7) [.lenStart 5, .lenStep 5, .delete 0, .store 1 7, .lenStep 5]).bind
      (lenResult c · 5) = some 2 := by decide

-- … and the mirror image returns 0 = size − #removes (lower bound tight)
example :
    let c : Cfg := ⟨id, 2⟩
    (run c ((State.init c).store c 1 7) [.lenStart 5, .lenStep 5, .store 0 7, .delete 1, .lenStep 5]).bind
      (lenResult c · 5) = some 0 := by decide

-- a `Range` over two shards, the second one iterated in reverse order, with a store in between: the
-- entries present throughout (0 ↦ 10, 1 ↦ 11) are passed once each, the late entry 3 ↦ 13 as well
example :
    let c : Cfg := ⟨id, 2⟩
    let s := ((State.init c).store c 0 10).store c 1 11
    (run c s [.rangeStart 1 (fun _ => true), .rangeStep 1 [(0, 10)], .store 3 13, .rangeStep 1 [(3, 13), (1, 11)]]).bind
      (fun s' => (s'.ranges 1).map (fun rc => (rc.log, rc.go, rc.next))) = some ([(0, 10), (3, 13), (1, 11)], true, 2) := by
  decide

-- the callback stops the loop: it returns false on the second invocation, the third entry is never
-- passed and no further section of the call is enabled
example :
    let c : Cfg := ⟨id, 1⟩
    let s := (((State.init c).store c 0 10).store c 1 11).store c 2 12
    (run c s [.rangeStart 1 (fun l => l.length < 2), .rangeStep 1 [(2, 12), (0, 10), (1, 11)]]).bind
      (fun s' => (s'.ranges 1).map (fun rc => (rc.log, rc.go))) = some ([(2, 12), (0, 10)], false) := by
  decide

-- an `order` that is not an enumeration of the shard is rejected
example :
    let c : Cfg := ⟨id, 1⟩
    (run c ((State.init c).store c 0 10) [.rangeStart 1 (fun _ => true), .rangeStep 1 []]).isNone = true := by
  decide

-- the hypothesis `stable` is satisfiable along a trace that changes other keys
example :
    let c : Cfg := ⟨id, 2⟩
    stable c 0 10 ((State.init c).store c 0 10) [.store 1 11, .delete 1, .load 0] := by
  simp [stable, step]; decide

end CMap

namespace SMap
open CMap

/-- **smap refinement.**  Each of `Load`/`Store`/`Delete` returns what the plain map returns and
commutes with the abstraction. -/
theorem smap_refines (m : Shard) (k v : Nat) :
    m.load k = abs m k ∧ abs (m.store k v) = (abs m).store k v ∧ abs (m.delete k) = (abs m).delete k :=
  ⟨rfl, funext (Shard.load_store m k v), funext (Shard.load_delete m k)⟩

/-- **smap Len is exact**: it holds the only mutex, so no operation overlaps its section and the
bounds of `CMap.len_bounds` collapse to the number of keys present. -/
theorem smap_len_exact (m m' : Shard) (r : Ret) (hnd : m.keys.Nodup) (hst : step m .len = some (m', r)) :
    ∃ n, r = .len n ∧ m' = m ∧
      ∃ keys : List Nat, keys.Nodup ∧ keys.length = n ∧ ∀ k, k ∈ keys ↔ abs m k ≠ none := by
  cases hst
  exact ⟨m.size, rfl, rfl, m.keys, hnd, (Shard.size_eq m).symm, Shard.mem_keys_iff m⟩

/-- **smap Range**: in its single section it passes no key twice, passes only entries of the map,
makes no call after the callback returned false, and — if never told to stop — passes every entry,
each key exactly once. -/
theorem smap_range_visits (m m' : Shard) (cb : List Entry → Bool) (order : List Entry) (r : Ret)
    (hnd : m.keys.Nodup) (hst : step m (.range cb order) = some (m', r)) :
    ∃ log go, r = .visited log go ∧ m' = m ∧
      (log.map (·.1)).Nodup ∧ (∀ e ∈ log, abs m e.1 = some e.2) ∧
      (∀ i, i + 1 < log.length → cb (log.take (i + 1)) = true) ∧
      (go = false → log ≠ [] ∧ cb log = false) ∧
      (go = true → ∀ k v, abs m k = some v → (k, v) ∈ log ∧ (log.map (·.1)).count k = 1) := by
  have hok := (step_ok hnd hst).1
  simp only [step] at hst
  split at hst
  · cases hst
    obtain ⟨h1, h2, h3, h4, h5, h6⟩ := hok
    refine ⟨_, _, rfl, rfl, h1, h2, h3, Answered.stopped ⟨h3, h4, h5⟩, fun hg k v hkv => ?_⟩
    have hmem := h6 hg k v hkv
    exact ⟨hmem, by rw [h1.count, if_pos (List.mem_map_of_mem hmem)]⟩
  · cases hst

/-- **smap is linearizable, all five methods.**  Every method is one critical section of the one
mutex, so a concurrent history is the sequence of its sections; every such sequence, of any length,
is accepted by the sequential specification of a plain map (`accepts`: `Load` returns the value,
`Len` the exact number of keys, `Range` visits as in `smap_range_visits`), and the contents agree. -/
theorem smap_linearizable (tr : List Act) (m m' : Shard) (rets : List Ret) (hnd : m.keys.Nodup)
    (hrun : run m tr = some (m', rets)) :
    accepts (abs m) tr rets ∧ m'.keys.Nodup := by
  fun_induction run m tr generalizing rets with
  | case1 m => cases hrun; exact ⟨trivial, hnd⟩
  | case2 m a tr m1 r hst ih =>
    obtain ⟨⟨m2, rs⟩, hrun', heq⟩ := Option.map_eq_some_iff.1 hrun
    cases heq
    obtain ⟨hok, habs, hnd1⟩ := step_ok hnd hst
    obtain ⟨hacc, hnd'⟩ := ih rs hnd1 hrun'
    exact ⟨⟨hok, habs ▸ hacc⟩, hnd'⟩
  | case3 m a tr hst => cases hrun

-- non-vacuity: a history with all five methods; Len is exact; Range stops after the second call
example :
    (run [] [.store 1 10, .store 2 20, .len, .load 1, .delete 1, .load 1, .store 3 30,
        .range (fun l => l.length < 2) [(3, 30), (2, 20)], .range (fun _ => true) [(3, 30), (2, 20)]]).map (·.2) =
      some [.unit, .unit, .len 2, .val (some 10), .unit, .val none, .unit,
        .visited [(3, 30), (2, 20)] false, .visited [(3, 30), (2, 20)] true] := by decide

end SMap
