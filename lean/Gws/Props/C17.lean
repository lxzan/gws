import Gws.Lemmas.Window
/-!
# C17 — the compression history window always equals the suffix of what was written

Statement (properties.jsonl): after any sequence of writes of any sizes, the history window of
capacity 2^bits holds exactly the last min(total bytes written, 2^bits) bytes, in order; a disabled
window stays empty.
-/

namespace Win

/-- One write: for every window state whose contents fit its capacity and every chunk `p` (no bound
on either), the new contents are the last `size` bytes of old contents followed by the chunk. -/
theorem write_spec (w : Win) (p : Bytes) (he : w.enabled = true) (hinv : w.dict.length ≤ w.size) :
    (w.write p).dict = lastN w.size (w.dict ++ p) := by
  unfold Win.write
  simp only [he, Bool.not_true, Bool.false_eq_true, ↓reduceIte]
  split
  · exact (lastN_of_length_le _ _ (by rw [List.length_append]; omega)).symm
  · rename_i h
    simp only [apply_ite Win.dict]
    -- the fill step (`m > 0`) leaves a full window; without it (`m = 0`) the window was full already: `full_case` both times
    by_cases hm : w.size - w.dict.length > 0
    · simp only [hm, ↓reduceIte]
      rw [full_case _ _ w.size (by simp; omega), List.append_assoc, List.take_append_drop]
    · simp only [hm, ↓reduceIte]
      exact full_case w.dict p w.size (by omega)

/-- The invariant `len(dict) ≤ size` is preserved (so the code's `append` never reallocates a pooled
slice and the precondition of `write_spec` holds along every history). -/
theorem write_length_le (w : Win) (p : Bytes) (he : w.enabled = true) (hinv : w.dict.length ≤ w.size) :
    (w.write p).dict.length ≤ (w.write p).size := by
  rw [write_spec w p he hinv, (write_frame w p).2]
  simp; omega

/-- Every history: the window after any sequence of writes, starting from any state that satisfies
the invariant, is the last `size` bytes of (initial contents ++ everything written). -/
theorem writes_spec_from (w : Win) (ps : List Bytes) (he : w.enabled = true) (hinv : w.dict.length ≤ w.size) :
    (ps.foldl Win.write w).dict = lastN w.size (w.dict ++ ps.flatten) ∧
    (ps.foldl Win.write w).size = w.size ∧ (ps.foldl Win.write w).enabled = true := by
  induction ps generalizing w with
  | nil => simp [lastN_of_length_le _ _ hinv, he]
  | cons p ps ih =>
    have hf := write_frame w p
    have := ih (w.write p) (by rw [hf.1, he]) (write_length_le w p he hinv)
    simp only [List.foldl_cons, List.flatten_cons]
    rw [this.1, this.2.1, this.2.2, hf.2, write_spec w p he hinv, lastN_lastN_append, List.append_assoc]
    simp

/-- **C17, enabled window.** After any sequence of writes `ps` to a freshly initialised window of
capacity `2^bits`, it holds exactly the last `min (total written) (2^bits)` bytes, in order. -/
theorem writes_spec (bits : Nat) (ps : List Bytes) :
    (ps.foldl Win.write (Win.init bits)).dict = lastN (2 ^ bits) ps.flatten := by
  have := writes_spec_from (Win.init bits) ps rfl (by simp [Win.init])
  simpa [Win.init] using this.1

/-- the length clause of C17, explicit -/
theorem writes_length (bits : Nat) (ps : List Bytes) :
    (ps.foldl Win.write (Win.init bits)).dict.length = min ps.flatten.length (2 ^ bits) := by
  rw [writes_spec]; simp [Nat.min_comm]

/-- **C17, chunking is irrelevant.** The window depends only on the byte stream written, not on how
it was cut into `Write` calls: a message written in one piece, frame by frame, or byte by byte
leaves the same history (this is what lets the two endpoints of C02 agree although one side
writes whole payloads and the other inflated pieces). -/
theorem writes_chunking_irrelevant (bits : Nat) (ps qs : List Bytes) (h : ps.flatten = qs.flatten) :
    (ps.foldl Win.write (Win.init bits)).dict = (qs.foldl Win.write (Win.init bits)).dict := by
  rw [writes_spec, writes_spec, h]

/-- the chunks of a streamed file written one by one leave what one write of the whole payload leaves (a switched-off
window included) -/
theorem foldl_write_eq (w : Win) (cs : List Bytes) (hw : w.enabled = true → w.dict.length ≤ w.size) :
    cs.foldl Win.write w = w.write cs.flatten := by
  cases he : w.enabled
  · rw [write_off w _ he]
    induction cs with
    | nil => rfl
    | cons c cs ih => rw [List.foldl_cons, write_off w c he, ih]
  · -- a `Win` is its three fields: both `dict`s are `lastN size (dict ++ cs.flatten)`, and no write changes the other two
    have h1 := writes_spec_from w cs he (hw he)
    have h2 := write_spec w cs.flatten he (hw he)
    have h3 := write_frame w cs.flatten
    cases hA : cs.foldl Win.write w; cases hB : w.write cs.flatten
    simp only [hA, hB] at h1 h2 h3
    simp_all

/-- two writes equal one write of the concatenation -/
theorem write_write_eq_write_append (w : Win) (p q : Bytes) (he : w.enabled = true)
    (hinv : w.dict.length ≤ w.size) :
    ((w.write p).write q).dict = (w.write (p ++ q)).dict := by
  have h2 := writes_spec_from w [p, q] he hinv
  have h1 := writes_spec_from w [p ++ q] he hinv
  simp only [List.foldl_cons, List.foldl_nil] at h1 h2
  rw [h2.1, h1.1]; simp

/-- **C17, old bytes fall out.** Once at least `2^bits` bytes have been written after some prefix,
nothing of that prefix (nor of the initial contents) is left in the window. -/
theorem writes_forget (bits : Nat) (ps qs : List Bytes) (h : 2 ^ bits ≤ qs.flatten.length) :
    ((ps ++ qs).foldl Win.write (Win.init bits)).dict = (qs.foldl Win.write (Win.init bits)).dict := by
  rw [writes_spec, writes_spec, List.flatten_append, lastN_append_of_le _ _ _ h]

/-- **C17, disabled window.** A window that was never initialised stays empty under any writes. -/
theorem disabled_stays_empty (ps : List Bytes) :
    (ps.foldl Win.write Win.disabled) = Win.disabled := by
  rw [foldl_write_eq _ _ (by simp [disabled]), write_off _ _ rfl]

-- non-vacuity: all four branches are reachable from `init`, and the spec is not trivially `[]`
example : ([[1,2,3],[4,5,6],[7,8,9,10,11]].foldl Win.write (Win.init 3)).dict = [4,5,6,7,8,9,10,11] := by decide
example : ([[1,2,3],[4,5,6],[7,8,9,10,11,12,13,14,15,16,17]].foldl Win.write (Win.init 3)).dict = [10,11,12,13,14,15,16,17] := by decide
example : ([[1,2,3,4,5,6,7,8],[9]].foldl Win.write (Win.init 3)).dict = [2,3,4,5,6,7,8,9] := by decide
-- `writes_forget`'s hypothesis is met by a reachable history
example : 2 ^ 3 ≤ ([[1,2,3,4,5],[6,7,8,9]] : List Bytes).flatten.length := by decide

end Win
