import Gws.Props.TransFrame
import Gws.Lemmas.ReaderHdr
/-!
# T3 — `frameHeader.Parse` (types.go), translated from the source on every run, equals `Frame.parse`

The reader is the list of bytes it will deliver; `internal.ReadN` (`io.ReadFull`) delivers exactly the requested
number of bytes or fails (`goReadN`).  `c` is the 14-byte header array of the connection (its old contents do
not matter).
-/
namespace TransEquiv

private theorem rd2 (a b : UInt8) (r : Bytes) : goReadN (a :: b :: r) 2 = some ([a, b], r) := by
  simp [goReadN]
private theorem rd4 (a b c d : UInt8) (r : Bytes) : goReadN (a :: b :: c :: d :: r) 4 = some ([a, b, c, d], r) := by
  simp [goReadN]
private theorem rd8 (a b c d e f g h : UInt8) (r : Bytes) :
    goReadN (a :: b :: c :: d :: e :: f :: g :: h :: r) 8 = some ([a, b, c, d, e, f, g, h], r) := by
  simp [goReadN]

private theorem u16_eq (a b : UInt8) : Int.ofNat (goU16BE [a, b]).toNat = ((Frame.be16 a b : Nat) : Int) := by
  have := a.toNat_lt; have := b.toNat_lt
  simp [goU16BE, goIdx, Frame.be16]
  omega

private theorem u64_eq (a b c d e f g h : UInt8) :
    goIntOfU64 (goU64BE [a, b, c, d, e, f, g, h]) = Frame.toGoInt (Frame.be64 a b c d e f g h) := by
  have : (goU64BE [a, b, c, d, e, f, g, h]).toNat = Frame.be64 a b c d e f g h := by
    unfold goU64BE
    simp only [goIdx, List.getD_cons_zero, List.getD_cons_succ, UInt64.toNat_ofNat']
    exact Nat.mod_eq_of_lt (Reader.be64_lt ..)
  unfold goIntOfU64 Frame.toGoInt
  rw [this]

/-- `Parse` = the model's `Frame.parse`: same outcome (incomplete header / parsed header), same length (with the
two's complement reading of a 64-bit length), same unread rest; the header array afterwards holds the two header
bytes the getters read, and the mask key at `[10:14]` when the mask bit is set. -/
theorem Parse_eq (c : List UInt8) (hc : c.length = 14) (b : Bytes) :
    match Frame.parse b with
    | .needMore => ∃ c' r', Trans.frameHeader_Parse c b = (c', r', 0, some GoErr.io)
    | .ok h rest => ∃ c', Trans.frameHeader_Parse c b = (c', rest, h.len, none)
        ∧ c'.length = 14 ∧ (goIdx c' 0).toNat = h.b0 ∧ (goIdx c' 1).toNat = h.b1
        ∧ (Frame.getMask h.b1 = true → (c'.drop 10).take 4 = h.key) := by
  -- wherever the input ends inside the header, `Parse` evaluates to its I/O error: these cases are all `⟨_, _, rfl⟩`
  match b with
  | [] | [_] => exact ⟨_, _, rfl⟩
  | x0 :: x1 :: r1 =>
    -- the header array with the two header bytes in it: what `Parse` copies in behind them leaves them as they are, and
    -- beyond them it reads only the slice it has just written
    obtain ⟨c1, hc1, l1, i0, i1⟩ : ∃ c1, goCopy c 0 [x0, x1] = c1 ∧ c1.length = 14 ∧ goIdx c1 0 = x0 ∧ goIdx c1 1 = x1 :=
      ⟨_, rfl, by rw [goCopy_length, hc], by simp [goCopy, goIdx, hc], by simp [goCopy, goIdx, hc]⟩
    have j1 : ∀ s, goIdx (goCopy c1 2 s) 1 = x1 := fun s => (goIdx_goCopy_lt c1 s (by omega) (by omega)).trans i1
    unfold Trans.frameHeader_Parse Frame.parse
    simp only [Int.reduceSub, Int.reduceToNat, rd2, hc1, u8_beq, GetLengthCode_eq, GetMask_eq, i1, UInt8.reduceToNat, decide_eq_true_eq]
    -- the extended length, in each of its three encodings; `r1` is what follows it
    generalize Frame.getLengthCode x1.toNat = code
    have hcode : code = 126 ∨ code = 127 ∨ (¬ code = 126 ∧ ¬ code = 127) := by omega
    rcases hcode with rfl | rfl | ⟨h126, h127⟩
    case' inl =>
      rcases r1 with _ | ⟨a, _ | ⟨b, r1⟩⟩
      iterate 2 exact ⟨_, _, rfl⟩
      simp only [↓reduceIte, rd2, j1, List.drop_take, Nat.reduceSub, goCopy_slice c1 [a, b] (o := 2) (n := 2) rfl (by omega), u16_eq]
    case' inr.inl =>
      rcases r1 with _ | ⟨a, _ | ⟨b, _ | ⟨c, _ | ⟨d, _ | ⟨e, _ | ⟨f, _ | ⟨g, _ | ⟨h, r1⟩⟩⟩⟩⟩⟩⟩⟩
      iterate 8 exact ⟨_, _, rfl⟩
      simp only [Nat.reduceEqDiff, ↓reduceIte, rd8, j1, List.drop_take, Nat.reduceSub,
        goCopy_slice c1 [a, b, c, d, e, f, g, h] (o := 2) (n := 8) rfl (by omega), u64_eq]
    case' inr.inr =>
      simp only [h126, h127, if_false]
    -- the mask key, the same in all three
    all_goals
      cases hm : Frame.getMask x1.toNat
      · simp [hm, goIdx_goCopy_lt, goCopy_length, l1, i0, i1]
      · rcases r1 with _ | ⟨k0, _ | ⟨k1, _ | ⟨k2, _ | ⟨k3, r2⟩⟩⟩⟩
        iterate 4 exact ⟨_, _, rfl⟩
        · simp only [rd4]
          simp [hm, goIdx_goCopy_lt, goCopy_slice, goCopy_length, l1, i0, i1]

end TransEquiv
