import Gws.Generated.TransFW
import Gws.Props.TransSend
import Gws.Lemmas.WriterAggregate
/-!
# T3 for the aggregator `flateWriter` of writefile.go (C05): the translated methods equal the model

`Gws/Generated/TransFW.lean` is regenerated from /repo/writefile.go on every run by the buffer-list dialect of tools/gotrans
(a pointer to an element of `c.buffers` = its index; `none` = panic). The callback `c.cb` is an uninterpreted function `cb`, so
each statement also says *which* call of the callback is made — with which frame index, end-of-message flag and bytes — and that
no other is: the right-hand sides are literally one step of `Writer.feed` and the body of `Writer.FlateWriter.flush`.
-/
set_option linter.unusedSimpArgs false   -- deliberate: arguments idle under today's translation serve when the Go code is re-spelled

namespace TransEquiv.FW
open TransFW Writer

private theorem bufAddr_nat (bs : List Buf) (i : Nat) (h : i < bs.length) : GoFW.bufAddr bs (i : Int) = some i := by
  unfold GoFW.bufAddr
  simp [h]

private theorem deref_lt (w : FlateWriter) (i : Nat) (h : i < w.buffers.length) : GoFW.deref w i = some w.buffers[i] := by
  unfold GoFW.deref
  exact List.getElem?_eq_getElem h

private theorem bufAddr_last (init : List Buf) (t : Buf) :
    GoFW.bufAddr (init ++ [t]) (((init ++ [t]).length : Int) - 1) = some init.length := by
  have h : (((init ++ [t]).length : Int) - 1) = (init.length : Nat) := by simp
  rw [h, bufAddr_nat _ _ (by simp)]

private theorem deref_last (idx : Nat) (init : List Buf) (t : Buf) : GoFW.deref ⟨idx, init ++ [t]⟩ init.length = some t := by
  simp [GoFW.deref]

private theorem bufWrite_last (idx : Nat) (init : List Buf) (t : Buf) (i : Nat) (p : Bytes) (hi : i = init.length) :
    GoFW.bufWrite ⟨idx, init ++ [t]⟩ i p = some ⟨idx, init ++ [{ t with data := t.data ++ p }]⟩ := by
  simp [GoFW.bufWrite, hi]

private theorem sum_loop (w : FlateWriter) (n : Nat) : ∀ (a : Nat) (acc : Int), a + n ≤ w.buffers.length →
    forIn (m := Option) (List.range' a n) acc (fun (i' : Nat) (s : Int) =>
      (GoFW.bufAddr w.buffers (i' : Int)).bind fun x => (GoFW.deref w x).bind fun y =>
        some (ForInStep.yield (s + (y.data.length : Int))))
    = some (acc + ((((w.buffers.drop a).take n).map (·.data.length)).sum : Nat)) := by
  induction n with
  | zero => intro a acc _; simp
  | succ n ih =>
    intro a acc h
    have ha : a < w.buffers.length := by omega
    rw [List.range'_succ, List.forIn_cons, bufAddr_nat _ _ ha, Option.bind_some, deref_lt _ _ ha, Option.bind_some]
    simp only [Option.bind_eq_bind, Option.bind_some]
    rw [ih (a + 1) _ (by omega), List.drop_eq_getElem_cons ha]
    simp only [List.take_succ_cons, List.map_cons, List.sum_cons]
    congr 1
    omega

private theorem bufWrite_zero (idx : Nat) (b : Buf) (rest : List Buf) (d : Bytes) :
    GoFW.bufWrite ⟨idx, b :: rest⟩ 0 d = some ⟨idx, { b with data := b.data ++ d } :: rest⟩ := rfl

private theorem bufTruncate_zero (idx : Nat) (b : Buf) (rest : List Buf) (n : Int) (h : 0 ≤ n ∧ n.toNat ≤ b.data.length) :
    GoFW.bufTruncate ⟨idx, b :: rest⟩ 0 n = some ⟨idx, { b with data := b.data.take n.toNat } :: rest⟩ := by
  simp [GoFW.bufTruncate, h]

private theorem flush_loop (idx : Nat) (b0 : Buf) (rest : List Buf) (n : Nat) : ∀ (k : Nat) (acc : Bytes), k + n ≤ rest.length →
    forIn (m := Option) (List.range' (k + 1) n) (⟨idx, { b0 with data := acc } :: rest⟩ : FlateWriter)
      (fun (i' : Nat) (s : FlateWriter) =>
        (GoFW.bufAddr s.buffers (i' : Int)).bind fun x => (GoFW.deref s x).bind fun y =>
          (GoFW.bufWrite s 0 y.data).bind fun w => some (ForInStep.yield w))
    = some ⟨idx, { b0 with data := acc ++ (((rest.drop k).take n).map (·.data)).flatten } :: rest⟩ := by
  induction n with
  | zero => intro k acc _; simp
  | succ n ih =>
    intro k acc h
    have hk : k < rest.length := by omega
    have h2 : GoFW.deref ⟨idx, { b0 with data := acc } :: rest⟩ (k + 1) = some rest[k] := by
      simp [GoFW.deref, hk]
    rw [List.range'_succ, List.forIn_cons, bufAddr_nat _ _ (by simp; omega), Option.bind_some, h2, Option.bind_some]
    rw [bufWrite_zero, Option.bind_some]
    simp only [Option.bind_eq_bind, Option.bind_some]
    rw [ih (k + 1) _ (by omega), List.drop_eq_getElem_cons hk]
    simp only [List.take_succ_cons, List.map_cons, List.flatten_cons, List.append_assoc]

theorem shouldCall_eq (w : FlateWriter) : flateWriter_shouldCall w = some w.shouldCall := by
  unfold flateWriter_shouldCall FlateWriter.shouldCall
  simp only []
  by_cases h : w.buffers.length < 2
  · have h' : (w.buffers.length : Int) < 2 := by omega
    simp [h, h']
  · have h' : ¬ (w.buffers.length : Int) < 2 := by omega
    have e1 : Int.toNat 1 = 1 := rfl
    have e2 : ((w.buffers.length : Int) - 1).toNat = w.buffers.length - 1 := by omega
    simp only [h, h', if_false, e1, e2, Option.bind_eq_bind, Option.pure_def]
    rw [sum_loop w (w.buffers.length - 1) 1 0 (by omega)]
    have : (w.buffers.drop 1).take (w.buffers.length - 1) = w.buffers.drop 1 := by
      apply List.take_of_length_le; simp
    rw [this, Option.bind_some]
    congr 1
    rw [decide_eq_decide]
    omega

theorem write_eq (w : FlateWriter) (p : Bytes) : flateWriter_write w p = some (w.write p) := by
  have hg : GoFW.poolGet (max 131072 (p.length : Int)) = { cap := Pool.cap (max Facts.segmentSize p.length), data := [] } := by
    have : Facts.segmentSize = 131072 := rfl
    rw [GoFW.poolGet]
    congr 2
    omega
  obtain ⟨idx, bufs⟩ := w
  have concat : ∀ init t, flateWriter_write ⟨idx, init ++ [t]⟩ p = some ((⟨idx, init ++ [t]⟩ : FlateWriter).write p) := by
    intro init t
    have hl : ¬ (((init ++ [t]).length : Int) = 0) := by simp; omega
    have h14 : Facts.frameHeaderSize = 14 := rfl
    unfold flateWriter_write
    simp only [hl, if_false]
    rw [bufAddr_last, write_concat]
    simp only [deref_last, Option.bind_eq_bind, Option.bind_some, Option.pure_def]
    by_cases hc : t.data.length + p.length + Facts.frameHeaderSize > t.cap
    · have hc' : (t.data.length : Int) + (p.length : Int) + 14 > (t.cap : Int) := by omega
      simp only [hc, hc', if_true]
      rw [bufWrite_last idx (init ++ [t]) _ _ p (by simp), hg]
      rfl
    · have hc' : ¬ (t.data.length : Int) + (p.length : Int) + 14 > (t.cap : Int) := by omega
      simp only [hc, hc', if_false, bufWrite_last]
  rcases List.eq_nil_or_concat bufs with rfl | ⟨init, t, rfl⟩
  · -- on an empty list the code first appends a fresh buffer, as the model does (`write_nil`)
    rw [write_nil, ← hg, ← concat []]
    simp [flateWriter_write]
  · rw [List.concat_eq_append]
    exact concat init t

/-- `Write(p)`: after `write`, iff `shouldCall`, exactly one callback — frame `index`, not final, the bytes of the FIRST
buffer — then that buffer is dropped and the index advances; the callback's error is returned (one step of `Writer.feed`) -/
theorem Write_eq {σ : Type} (cb : σ → Nat → Bool → Bytes → σ × Option GoErr) (st : σ) (w : FlateWriter) (p : Bytes) :
    flateWriter_Write cb st w p =
      (let w1 := w.write p
       if w1.shouldCall then
         match w1.buffers with
         | [] => none
         | b0 :: rest =>
           some ({ index := w1.index + 1, buffers := rest }, (cb st w1.index false b0.data).1, (0 : Int), (cb st w1.index false b0.data).2)
       else some (w1, st, (0 : Int), none)) := by
  unfold flateWriter_Write
  simp only [write_eq, shouldCall_eq, Option.bind_eq_bind, Option.bind_some, Option.pure_def]
  generalize w.write p = w1
  obtain ⟨idx, bufs⟩ := w1
  cases hs : FlateWriter.shouldCall ⟨idx, bufs⟩
  · simp
  · cases bufs with
    | nil => simp [GoFW.bufAddr]
    | cons b0 rest =>
      simp [GoFW.bufAddr, GoFW.deref, GoFW.sliceFrom]

/-- `Flush()`: everything still held is joined into the first buffer, the sync-flush trailer is removed, and exactly one
callback is made — frame `index`, final, those bytes (the body of `Writer.FlateWriter.flush`); with no buffer at all the
Go code panics (`c.buffers[0]`) -/
theorem Flush_eq {σ : Type} (cb : σ → Nat → Bool → Bytes → σ × Option GoErr) (st : σ) (w : FlateWriter) :
    flateWriter_Flush cb st w =
      (match w.buffers with
       | [] => none
       | b0 :: rest =>
         let data := stripTail (b0.data ++ (rest.map (·.data)).flatten)
         some ({ index := w.index + 1, buffers := { b0 with data := data } :: rest }, (cb st w.index true data).1, (cb st w.index true data).2)) := by
  obtain ⟨idx, bufs⟩ := w
  unfold flateWriter_Flush
  cases bufs with
  | nil => rfl
  | cons b0 rest =>
    have e0 : GoFW.bufAddr (b0 :: rest) 0 = some 0 := by simp [GoFW.bufAddr]
    have e1 : Int.toNat 1 = 0 + 1 := rfl
    have e2 : (((b0 :: rest).length : Int) - 1).toNat = rest.length := by simp
    simp only [e0, e1, e2, Option.bind_eq_bind, Option.bind_some, Option.pure_def]
    have := flush_loop idx b0 rest rest.length 0 b0.data (by omega)
    simp only [List.drop_zero, List.take_length] at this
    rw [this]
    generalize b0.data ++ (rest.map (·.data)).flatten = d
    simp only [Option.bind_some, GoFW.deref, List.getElem?_cons_zero]
    rw [stripTail_go]
    by_cases h4 : (d.length : Int) ≥ 4
    · have hs : GoFW.sliceFrom d ((d.length : Int) - 4) = some (d.drop ((d.length : Int) - 4).toNat) := by
        unfold GoFW.sliceFrom
        rw [if_pos ⟨by omega, by omega⟩]
      simp only [h4, if_true, hs, Option.bind_some]
      by_cases hu : goU32BE (d.drop ((d.length : Int) - 4).toNat) = 65535
      · simp only [hu, if_true]
        rw [bufTruncate_zero idx { b0 with data := d } rest _ ⟨by omega, by simp only []; omega⟩]
        rfl
      · simp only [hu, if_false]
    · simp only [h4, if_false]

/-! ## the compressed `WriteFile` path below the compressor

`bigDeflater.Compress(reader, fw, dict)`: while `readerWrapper.WriteTo` feeds it (`TransEquiv.RL.WriteTo_eq`) the compressor calls
`fw.Write` with pieces of its output — `outs`, in order; klauspost is not translated, so *which* pieces is an input — and stops at
the first error; then `fw.Flush()` unless the reader failed. `compressT` is that calling sequence over the TRANSLATED `Write` and
`Flush`; `compressFile_translated` shows it produces the frames and the error of the model's `Writer.compressFile`. -/

/-- the Go callback seen from the aggregator, for a model callback `f`: the frame it produces is appended to what was written -/
def cbOf (f : Nat → Bool → Bytes → Except WErr Bytes) (st : List Bytes) (index : Nat) (eof : Bool) (p : Bytes) :
    List Bytes × Option GoErr :=
  match f index eof p with
  | .ok frame => (st ++ [frame], none)
  | .error e => (st, some (goErrOfW e))

/-- the compressor's `Write` calls on the translated `flateWriter.Write`, in order, until one fails -/
def feedT {σ : Type} (cb : σ → Nat → Bool → Bytes → σ × Option GoErr) : σ → FlateWriter → List Bytes → Option (FlateWriter × σ × Option GoErr)
  | st, w, [] => some (w, st, none)
  | st, w, p :: ps =>
    match flateWriter_Write cb st w p with
    | none => none
    | some (w', st', _, some e) => some (w', st', some e)
    | some (w', st', _, none) => feedT cb st' w' ps

/-- `Compress`: feed, then (if the reader reached EOF) the translated `Flush` -/
def compressT {σ : Type} (cb : σ → Nat → Bool → Bytes → σ × Option GoErr) (st : σ) (sawEof : Bool) (outs : List Bytes) : Option (σ × Option GoErr) :=
  match feedT cb st {} outs with
  | none => none
  | some (_, st', some e) => some (st', some e)
  | some (w', st', none) =>
    if !sawEof then some (st', some GoErr.io)
    else (flateWriter_Flush cb st' w').map fun r => (r.2.1, r.2.2)

/-- `F` need agree with `cbOf f` only on data of at most `B` bytes, when no more than `B` bytes are held and still to come:
the aggregator only hands out bytes it was given (`Writer.write_spec`) -/
private theorem feedT_eq (F : List Bytes → Nat → Bool → Bytes → List Bytes × Option GoErr) (f : Nat → Bool → Bytes → Except WErr Bytes)
    (B : Nat) (hF : ∀ st i e p, p.length ≤ B → F st i e p = cbOf f st i e p) :
    ∀ (outs : List Bytes) (st : List Bytes) (w : FlateWriter), (held w).length + outs.flatten.length ≤ B →
    ∃ w', feedT F st w outs = some (w', st ++ (feed f w outs).2.1, ((feed f w outs).2.2).map goErrOfW)
      ∧ ((feed f w outs).2.2 = none →
          w' = (feed f w outs).1 ∧ (held w').length ≤ B ∧ ((w.buffers ≠ [] ∨ outs ≠ []) → w'.buffers ≠ [])) := by
  intro outs
  induction outs with
  | nil => intro st w hB; exact ⟨w, by simp [feedT, feed], fun _ => ⟨by simp [feed], by simpa using hB, by simp⟩⟩
  | cons p ps ih =>
    intro st w hB
    obtain ⟨hw, -, hne⟩ := write_spec w p
    replace hw := congrArg List.length hw
    simp only [List.flatten_cons, List.length_append] at hB hw
    rw [feedT, Write_eq, feed]
    simp only []
    cases hs : (w.write p).shouldCall
    · simpa [hne] using ih st (w.write p) (by omega)
    · obtain ⟨b0, rest, hb, hrest, -⟩ := shouldCall_spec _ hs
      have hh : (held (w.write p)).length = b0.data.length + (held ⟨(w.write p).index + 1, rest⟩).length := by
        simp [held, hb]
      simp only [hb, ↓reduceIte]
      rw [hF st _ false b0.data (by omega)]
      cases hf : f (w.write p).index false b0.data with
      | error e => simp [cbOf, hf]
      | ok frame =>
        obtain ⟨w', h1, h2⟩ := ih (st ++ [frame]) { index := (w.write p).index + 1, buffers := rest } (by omega)
        exact ⟨w', by simp [cbOf, hf, h1], by simpa [hf, hrest] using h2⟩

/-- `outs ≠ []`: a compressor that wrote nothing at all leaves no buffer, and `Flush` panics on `c.buffers[0]` in the code and
in the model alike; klauspost always writes at least the final block. -/
theorem compressT_eq (F : List Bytes → Nat → Bool → Bytes → List Bytes × Option GoErr)
    (f : Nat → Bool → Bytes → Except WErr Bytes) (sawEof : Bool) (outs : List Bytes) (hne : outs ≠ [])
    (hF : ∀ st i e p, p.length ≤ outs.flatten.length → F st i e p = cbOf f st i e p) :
    compressT F [] sawEof outs
      = some ((Writer.compressFile f sawEof outs).1, (Writer.compressFile f sawEof outs).2.map goErrOfW) := by
  obtain ⟨w', h1, h2⟩ := feedT_eq F f _ hF outs [] {} (by simp [held])
  unfold compressT Writer.compressFile
  rw [h1]
  simp only [List.nil_append]
  cases he : (feed f {} outs).2.2 with
  | some e => simp
  | none =>
    obtain ⟨rfl, hB, hb⟩ := h2 he
    replace hb := hb (Or.inr hne)
    cases sawEof with
    | false => simp [goErrOfW]
    | true =>
      simp only [Option.map_none, Bool.not_true, Bool.false_eq_true, if_false]
      rw [Flush_eq, flush_eq _ _ hb]
      obtain ⟨b0, rest, hbb⟩ := List.exists_cons_of_ne_nil hb
      have hd : b0.data ++ (rest.map (·.data)).flatten = held (feed f {} outs).1 := by simp [held, hbb]
      simp only [hbb, hd, Option.map_some]
      rw [hF _ _ _ _ (Nat.le_trans (stripTail_length_le _) hB)]
      cases hf : f (feed f {} outs).1.index true (stripTail (held (feed f {} outs).1)) <;> simp [cbOf, hf]

theorem compressFile_translated (f : Nat → Bool → Bytes → Except WErr Bytes) (sawEof : Bool) (outs : List Bytes) (hne : outs ≠ []) :
    compressT (cbOf f) [] sawEof outs
      = some ((Writer.compressFile f sawEof outs).1, (Writer.compressFile f sawEof outs).2.map goErrOfW) :=
  compressT_eq (cbOf f) f sawEof outs hne fun _ _ _ _ _ => rfl

example : (flateWriter_write {} [1, 2, 3]).map (·.buffers.map (·.data)) = some [[1, 2, 3]] := by decide +kernel

/-- `Flush` on two buffers whose joined contents `01 02 00 | 00 ff ff` end in the sync-flush trailer: the first buffer and the
single (final, index 0) callback carry `01 02` — the callback here records its calls -/
example :
    (flateWriter_Flush (fun (st : List (Nat × Bool × Bytes)) i fin p => (st ++ [(i, fin, p)], none)) []
        { index := 0, buffers := [{ cap := 16, data := [1, 2, 0] }, { cap := 16, data := [0, 255, 255] }] }).map
      (fun r => (r.1.index, r.1.buffers.map (·.data), r.2.1, r.2.2)) = some (1, [[1, 2], [0, 255, 255]], [(0, true, [1, 2])], none) := by rfl

/-- `compressT` on two `Write`s `01 02 03`, `00 00 ff ff` and EOF: one frame (index 0, final), the trailer stripped -/
example : compressT (cbOf fun i eof p => .ok (UInt8.ofNat i :: (if eof then 1 else 0) :: p)) [] true [[1, 2, 3], [0, 0, 255, 255]]
    = some ([[0, 1, 1, 2, 3]], none) := by decide +kernel

end TransEquiv.FW
