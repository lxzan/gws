import Gws.Props.TransWindow
import Gws.Props.TransClose
import Gws.Model.ReaderStep
/-!
# T3 — `emitMessage` (reader.go), translated from the source on every run, equals the model's `Reader.emitMessage`

The inflater's result is an input of the translation (`inflated`), the dispatch to the handler is left
uninterpreted.  The theorem fixes the ORDER the code uses: inflate, write the inflated payload into the
decompression window, then the UTF-8 gate, then dispatch — which is what the C02 (window contents) and C16
(gate on the inflated payload) theorems are proved about.
-/
namespace TransEquiv

inductive EmitR where
  | ret (e : Option GoErr)
  | deliver (parallel : Bool) (compressed : Bool) (opcode : UInt8) (data : Bytes)

/-- the inflater's result as Go values: the output and `nil`, or an error.  One error value stands for both failures
(`Decompress` returns `CloseMessageTooLarge` for one of them): `emitMessage` only tests `err != nil`
(`TransProps.inflate_failure_1011` is for every error value) -/
def inflatedOf : Codec.DecompRes → Bytes × Option GoErr
  | .ok out => (out, none)
  | _ => ([], some .io)

/-- `emitMessage` = `Reader.emitMessage`: on success the same window afterwards and the same payload handed to the
handler (sequentially or through the parallel queue, as configured); on failure the same status (1011 for an
inflation failure, 1007 for invalid text). -/
theorem emitMessage_eq (cfg : Reader.Cfg) (codec : Codec) (st : Reader.State) (opcode : UInt8) (data : Bytes)
    (compressed parallel : Bool) :
    match Reader.emitMessage cfg codec st opcode.toNat data compressed,
        Trans.Conn_emitMessage EmitR.ret (EmitR.deliver true) (EmitR.deliver false) (msg_compressed := compressed) (msg_Data := data)
          (c_dpsWindow_enabled := st.dps.enabled) (c_dpsWindow_dict := st.dps.dict) (c_dpsWindow_size := (st.dps.size : Int))
          (c_config_CheckUtf8Enabled := cfg.checkUtf8) (msg_Opcode := opcode) (c_config_ParallelEnabled := parallel)
          (inflated := inflatedOf (codec.decompress cfg.readMax st.dps.dict data)) with
    | .inl (st', ev), (dict', _, r) =>
        dict' = st'.dps.dict ∧ st'.cont = st.cont ∧ ∃ out, ev = some (.msg opcode.toNat out) ∧ r = .deliver parallel compressed opcode out
    | .inr e, (_, _, r) => ∃ c, e = .err (.coded c) ∧ r = .ret (some (.coded (UInt16.ofNat c))) := by
  unfold Reader.emitMessage Trans.Conn_emitMessage
  simp only [Trans.Message_Bytes, CheckEncoding_eq]
  cases compressed
  · simp only [Bool.false_eq_true, ↓reduceIte]
    cases hce : Utf8.checkEncoding cfg.checkUtf8 opcode.toNat data
    · simp only [Bool.not_false, ↓reduceIte]
      exact ⟨_, rfl, rfl⟩
    · cases parallel <;> simp
  · simp only [↓reduceIte]
    cases hd : codec.decompress cfg.readMax st.dps.dict data with
    | ok out =>
      simp only [inflatedOf, bne_self_eq_false, Bool.false_eq_true, ↓reduceIte, slideWindow_Write_eq]
      cases hce : Utf8.checkEncoding cfg.checkUtf8 opcode.toNat out
      · simp only [Bool.not_false, ↓reduceIte]
        exact ⟨_, rfl, rfl⟩
      · cases parallel <;> simp
    | libError => exact ⟨_, rfl, rfl⟩
    | tooLarge => exact ⟨_, rfl, rfl⟩

end TransEquiv
