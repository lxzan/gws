/-!
# What the model, the specs, the driver and the proofs share

`Bytes` is the model's view of a Go `[]byte` that is only read; slices that are written through are
threaded explicitly.  `goCopy` is the Go builtin `copy(dst[off:], src)`; `lastN` is the "suffix of what was written" spec
used by C17 and C02.  Here too, since more than one region needs them and they need nothing beyond core:
`run_invariant` / `optRun_append` for the `run` of any of the transition systems, and `perm_start` / `perm_finish`, the
bookkeeping step of "started ~ finished ++ running" (C15, C07).
-/

abbrev Bytes := List UInt8

/-- Go's builtin `copy(dst[off:], src)` on a slice of fixed length (memmove semantics: the source is
read before the destination is written, so overlapping copies within one slice are modelled by
passing the old value as `src`). -/
def goCopy (dst : Bytes) (off : Nat) (src : Bytes) : Bytes :=
  let k := min src.length (dst.length - off)
  dst.take off ++ src.take k ++ dst.drop (off + k)

/-- the last `k` elements of `l` (all of `l` if it is shorter) -/
def lastN {α : Type} (k : Nat) (l : List α) : List α := l.drop (l.length - k)

@[simp] theorem lastN_length {α : Type} (k : Nat) (l : List α) : (lastN k l).length = min k l.length := by
  unfold lastN; simp; omega

theorem lastN_of_length_le {α : Type} (k : Nat) (l : List α) (h : l.length ≤ k) : lastN k l = l := by
  unfold lastN; have : l.length - k = 0 := by omega
  simp [this]

theorem take_append_lastN {α : Type} (k : Nat) (l : List α) : l.take (l.length - k) ++ lastN k l = l :=
  List.take_append_drop _ _

theorem lastN_append_of_le {α : Type} (k : Nat) (a b : List α) (h : k ≤ b.length) :
    lastN k (a ++ b) = lastN k b := by
  unfold lastN
  have : (a ++ b).length - k = a.length + (b.length - k) := by rw [List.length_append]; omega
  rw [this, List.drop_length_add_append]

/-- what makes the window a function of the whole history -/
theorem lastN_lastN_append {α : Type} (k : Nat) (a b : List α) :
    lastN k (lastN k a ++ b) = lastN k (a ++ b) := by
  by_cases h : a.length ≤ k
  · rw [lastN_of_length_le k a h]
  · conv => rhs; rw [← take_append_lastN k a, List.append_assoc]
    exact (lastN_append_of_le k _ _ (by rw [List.length_append, lastN_length]; omega)).symm

theorem goCopy_length (dst src : Bytes) (off : Nat) : (goCopy dst off src).length = dst.length := by
  unfold goCopy
  simp only [List.length_append, List.length_take, List.length_drop]
  grind

theorem goCopy_fits (dst src : Bytes) (off : Nat) (h : off + src.length ≤ dst.length) :
    goCopy dst off src = dst.take off ++ src ++ dst.drop (off + src.length) := by
  unfold goCopy
  simp only [Nat.min_eq_left (show src.length ≤ dst.length - off by omega), List.take_length]

theorem goCopy_zero_of_le (dst src : Bytes) (h : src.length ≤ dst.length) :
    goCopy dst 0 src = src ++ dst.drop src.length := by
  simpa using goCopy_fits dst src 0 (by omega)

theorem goCopy_tail (dst src : Bytes) (off : Nat) (h : off + src.length = dst.length) :
    goCopy dst off src = dst.take off ++ src := by
  rw [goCopy_fits _ _ _ (by omega), h, List.drop_length, List.append_nil]

theorem goCopy_full (dst src : Bytes) (h : src.length = dst.length) : goCopy dst 0 src = src := by
  rw [goCopy_zero_of_le _ _ (by omega), h, List.drop_length, List.append_nil]

theorem goCopy_slice (d s : Bytes) {o n : Nat} (hn : s.length = n) (h : o + n ≤ d.length) :
    ((goCopy d o s).drop o).take n = s := by
  subst hn
  rw [goCopy_fits d s o h, List.append_assoc, List.drop_left' (by rw [List.length_take]; omega), List.take_left]

/-- The transition systems of the model (`TQ`, `Par`, `CMap`, `Conc`, `Own`, `Own.BC`, `Own.TD`) all run an
action list by these two equations.  `P` may mention the actions still to come. -/
theorem run_invariant {σ α : Type} {step : σ → α → Option σ} {run : σ → List α → Option σ}
    (hnil : ∀ s, run s [] = some s)
    (hcons : ∀ s a as, run s (a :: as) = (step s a).bind fun s' => run s' as)
    {P : List α → σ → Prop}
    (hstep : ∀ s a as s', P (a :: as) s → step s a = some s' → P as s') :
    ∀ (as : List α) (s s' : σ), P as s → run s as = some s' → P [] s'
  | [], s, s', h0, hr => by rw [hnil] at hr; cases hr; exact h0
  | a :: as, s, s', h0, hr => by
    rw [hcons] at hr
    cases hs : step s a with
    | none => rw [hs] at hr; cases hr
    | some s1 => rw [hs] at hr; exact run_invariant hnil hcons hstep as s1 s' (hstep s a as s1 h0 hs) hr

theorem optRun_append {σ α : Type} {step : σ → α → Option σ} {run : σ → List α → Option σ}
    (hnil : ∀ s, run s [] = some s) (hcons : ∀ s a as, run s (a :: as) = (step s a).bind fun s' => run s' as)
    (s : σ) (l1 l2 : List α) : run s (l1 ++ l2) = (run s l1).bind fun s' => run s' l2 := by
  induction l1 generalizing s with
  | nil => rw [hnil]; rfl
  | cons a as ih =>
    rw [List.cons_append, hcons, hcons]
    cases step s a with
    | none => rfl
    | some s1 => exact ih s1

theorem perm_start {α : Type} {l f r : List α} (k : α) (h : l.Perm (f ++ r)) :
    (l ++ [k]).Perm (f ++ k :: r) :=
  (List.perm_append_comm.trans (List.Perm.cons _ h)).trans List.perm_middle.symm

theorem perm_finish {α : Type} [BEq α] [LawfulBEq α] {l f r : List α} {j : α} (hj : j ∈ r)
    (h : l.Perm (f ++ r)) : l.Perm ((f ++ [j]) ++ r.erase j) := by
  rw [List.append_assoc]
  exact h.trans (List.Perm.append_left _ (List.perm_cons_erase hj))
